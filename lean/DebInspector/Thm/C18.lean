/-
C18: the fold of `parse_contents` over split rows gives two complete, mutually inverse mappings (`inverse_complete`);
on every table of the grammar the parser splits the rendered rows back and returns the expected mappings (`sound`).
-/
import DebInspector.Props.C18
import DebInspector.Proofs.SplitJoin

namespace Props.C18
open Py Model.Contents

/-- all (key, value) pairs a mapping holds, with multiplicity -/
def pairs (d : Dict) : List (Str × Str) := d.flatMap fun kv => kv.2.map fun v => (kv.1, v)

theorem pairs_appendTo (d : Dict) (k v : Str) : (pairs (appendTo d k v)).Perm (pairs d ++ [(k, v)]) := by
  induction d with
  | nil => simp [appendTo, pairs]
  | cons kv rest ih =>
    obtain ⟨k', vs⟩ := kv
    unfold appendTo
    split
    · rename_i h
      subst h
      simp only [pairs, List.flatMap_cons, List.map_append, List.map_cons, List.map_nil, List.append_assoc]
      exact List.Perm.append_left _ List.perm_append_comm
    · simp only [pairs, List.flatMap_cons, List.append_assoc] at ih ⊢
      exact List.Perm.append_left _ ih

theorem pairs_foldl_appendTo {α} (f g : α → Str) (xs : List α) (d : Dict) :
    (pairs (xs.foldl (fun d x => appendTo d (f x) (g x)) d)).Perm (pairs d ++ xs.map fun x => (f x, g x)) := by
  induction xs generalizing d with
  | nil => simp
  | cons x xs ih =>
    refine (ih _).trans ?_
    rw [List.map_cons, ← List.singleton_append, ← List.append_assoc]
    exact (pairs_appendTo d (f x) (g x)).append_right _

def rowPairs (path : Str) (names : List Str) : List (Str × Str) := names.map fun n => (path, n)

theorem addRow_fields (s : St) (path : Str) (names : List Str) :
    (addRow s path names).byPath = names.foldl (fun d n => appendTo d path n) s.byPath ∧
    (addRow s path names).byPkg = names.foldl (fun d n => appendTo d n path) s.byPkg ∧
    (addRow s path names).inTable = s.inTable := by
  induction names generalizing s with
  | nil => exact ⟨rfl, rfl, rfl⟩
  | cons n ns ih => exact ih { s with byPath := appendTo s.byPath path n, byPkg := appendTo s.byPkg n path }

theorem addRow_pairs (s : St) (path : Str) (names : List Str) :
    (pairs (addRow s path names).byPath).Perm (pairs s.byPath ++ rowPairs path names) ∧
    (pairs (addRow s path names).byPkg).Perm (pairs s.byPkg ++ (rowPairs path names).map Prod.swap) ∧
    (addRow s path names).inTable = s.inTable := by
  obtain ⟨h1, h2, h3⟩ := addRow_fields s path names
  rw [h1, h2, rowPairs, List.map_map]
  exact ⟨pairs_foldl_appendTo (fun _ => path) id names _, pairs_foldl_appendTo id (fun _ => path) names _, h3⟩

/-- the fold of `run` over rows that are already split: `(path, bare package names)` -/
def addRows (s : St) (rows : List (Str × List Str)) : St := rows.foldl (fun s r => addRow s r.1 r.2) s

/-- the `(path, package)` pairs the rows state, in file order -/
def allPairs (rows : List (Str × List Str)) : List (Str × Str) := rows.flatMap fun r => rowPairs r.1 r.2

theorem addRows_fields (rows : List (Str × List Str)) (s : St) :
    (addRows s rows).byPath = rows.foldl (fun d r => r.2.foldl (fun d n => appendTo d r.1 n) d) s.byPath ∧
    (addRows s rows).byPkg = rows.foldl (fun d r => r.2.foldl (fun d n => appendTo d n r.1) d) s.byPkg ∧
    (addRows s rows).inTable = s.inTable := by
  induction rows generalizing s with
  | nil => exact ⟨rfl, rfl, rfl⟩
  | cons r rs ih =>
    obtain ⟨h1, h2, h3⟩ := addRow_fields s r.1 r.2
    obtain ⟨i1, i2, i3⟩ := ih (addRow s r.1 r.2)
    rw [addRows, List.foldl_cons, ← addRows, i1, i2, i3, h1, h2, h3]
    exact ⟨rfl, rfl, rfl⟩

theorem addRows_pairs (s : St) (rows : List (Str × List Str)) :
    (pairs (addRows s rows).byPath).Perm (pairs s.byPath ++ allPairs rows) ∧
    (pairs (addRows s rows).byPkg).Perm (pairs s.byPkg ++ (allPairs rows).map Prod.swap) := by
  induction rows generalizing s with
  | nil => simp [addRows, allPairs]
  | cons r rs ih =>
    obtain ⟨h1, h2, _⟩ := addRow_pairs s r.1 r.2
    obtain ⟨i1, i2⟩ := ih (addRow s r.1 r.2)
    rw [allPairs, List.flatMap_cons, List.map_append, ← List.append_assoc, ← List.append_assoc]
    exact ⟨i1.trans (h1.append_right _), i2.trans (h2.append_right _)⟩

/-- **complete and mutually inverse**: for any list of parsed rows — any number, any names, repeated
paths and packages — the path→packages mapping holds exactly the rows' (path, package) pairs and
the package→paths mapping exactly the same pairs swapped, each with multiplicity -/
theorem inverse_complete (rows : List (Str × List Str)) :
    let s := addRows ⟨true, [], []⟩ rows
    (pairs s.byPath).Perm (allPairs rows) ∧
    (pairs s.byPkg).Perm ((allPairs rows).map Prod.swap) ∧
    ((pairs s.byPkg).map Prod.swap).Perm (pairs s.byPath) := by
  obtain ⟨h1, h2⟩ := addRows_pairs ⟨true, [], []⟩ rows
  simp only [pairs, List.flatMap_nil, List.nil_append] at h1 h2
  refine ⟨h1, h2, ?_⟩
  have h3 := h2.map Prod.swap
  simp only [List.map_map, Prod.swap_swap_eq, List.map_id] at h3
  exact h3.trans h1.symm

/-- non-vacuity: a path with a space, three-level qualifiers, a repeated path -/
example : parseContents (fileLines "FILE  LOCATION\nusr/a b   main/net/x,y\nusr/a b z\n".toList) true =
    .ok ([("usr/a b".toList, ["x".toList, "y".toList, "z".toList])],
         [("x".toList, ["usr/a b".toList]), ("y".toList, ["usr/a b".toList]), ("z".toList, ["usr/a b".toList])]) := by
  -- read the literals as character lists: the kernel then decodes no UTF-8
  repeat rw [String.toList_ofList]
  decide +kernel

theorem tokenOk_props (s : Str) (h : tokenOk s = true) :
    s ≠ [] ∧ ∀ c ∈ s, isSpace c = false ∧ c ≠ ',' ∧ c ≠ '/' := by
  simp only [tokenOk, Bool.and_eq_true, Bool.not_eq_true', List.isEmpty_eq_false_iff, List.all_eq_true, bne_iff_ne,
    ne_eq] at h
  exact ⟨h.1, fun c hc => ⟨(h.2 c hc).1.1, (h.2 c hc).1.2, (h.2 c hc).2⟩⟩

/-- a qualified name `[[area/]section/]package` -/
structure QFacts (p : List Str × Str) : Prop where
  name : tokenOk p.2 = true
  quals : ∀ q ∈ p.1, tokenOk q = true

theorem qualified_chars (p : List Str × Str) (hq : QFacts p) :
    qualified p ≠ [] ∧ ∀ c ∈ qualified p, isSpace c = false ∧ c ≠ ',' := by
  unfold qualified
  have hn := tokenOk_props p.2 hq.name
  constructor
  · cases hp : p.1 with
    | nil => exact hn.1
    | cons q qs => exact join_ne_nil ['/'] q _ (tokenOk_props q (hq.quals q (by rw [hp]; simp))).1
  · intro c hc
    rcases mem_join ['/'] _ c hc with h | ⟨t, ht, hct⟩
    · rw [List.mem_singleton.mp h]; exact ⟨by decide, by decide⟩
    · have := (tokenOk_props t (by
        rcases List.mem_append.mp ht with ht | ht
        · exact hq.quals t ht
        · rw [List.mem_singleton.mp ht]; exact hq.name)).2 c hct
      exact ⟨this.1, this.2.1⟩

theorem bareName_qualified (p : List Str × Str) (hq : QFacts p) : bareName (qualified p) = p.2 := by
  unfold bareName qualified
  have hns : '/' ∉ p.2 := fun hm => ((tokenOk_props p.2 hq.name).2 '/' hm).2.2 rfl
  cases hp : p.1 with
  | nil => rw [List.nil_append, join, rpartitionChar_not_mem '/' p.2 hns]
  | cons q qs => rw [join1_append '/' (q :: qs) [p.2] (by simp) (by simp), show join ['/'] [p.2] = p.2 from rfl, rpartitionChar_split '/' _ _ hns]

/-- `rowOk r`, clause by clause (the carriage-return and the two-qualifier clauses are not needed) -/
structure RowFacts (r : Row) : Prop where
  pathNe : r.path ≠ []
  pathHead : headP isSpace r.path = false
  pathLast : lastP (fun c => !isSpace c) r.path = true
  pathNoNl : '\n' ∉ r.path
  pkgsNe : r.pkgs ≠ []
  pkgs : ∀ p ∈ r.pkgs, QFacts p
  padNe : r.pad ≠ []
  pad : ∀ c ∈ r.pad, c = ' '
  notHeader : ¬ (r.path = "FILE".toList ∧ join [','] (r.pkgs.map qualified) = "LOCATION".toList)

theorem rowFacts (r : Row) (h : rowOk r = true) : RowFacts r := by
  simp only [rowOk, Bool.and_eq_true, Bool.not_eq_true', List.isEmpty_eq_false_iff, List.all_eq_true, beq_iff_eq,
    decide_eq_true_eq, and_assoc] at h
  obtain ⟨hne, hhead, hlast, hnl, _, hpkgsNe, hpkgs, hpadNe, hpad, hnot⟩ := h
  exact {
    pathNe := hne
    pathHead := by
      cases hp : r.path with
      | nil => exact absurd hp hne
      | cons c cs => rw [hp] at hhead; simpa [headP] using hhead
    pathLast := hlast
    pathNoNl := by simpa using hnl
    pkgsNe := hpkgsNe
    pkgs := fun p hp => ⟨(hpkgs p hp).1, (hpkgs p hp).2.2⟩
    padNe := hpadNe
    pad := hpad
    notHeader := by rwa [← Bool.not_eq_true, Bool.and_eq_true, beq_iff_eq, beq_iff_eq] at hnot }

def pkText (r : Row) : Str := join [','] (r.pkgs.map qualified)

theorem pkText_props (r : Row) (hf : RowFacts r) :
    pkText r ≠ [] ∧ (∀ c ∈ pkText r, isSpace c = false) := by
  unfold pkText
  constructor
  · obtain ⟨p, ps, hp⟩ := List.exists_cons_of_ne_nil hf.pkgsNe
    rw [hp, List.map_cons]
    exact join_ne_nil [','] _ _ (qualified_chars p (hf.pkgs p (by rw [hp]; simp))).1
  · intro c hc
    rcases mem_join [','] _ c hc with h | ⟨t, ht, hct⟩
    · rw [List.mem_singleton.mp h]; decide
    · obtain ⟨p, hp, rfl⟩ := List.mem_map.mp ht
      exact ((qualified_chars p (hf.pkgs p hp)).2 c hct).1

theorem splitLine_row (r : Row) (hf : RowFacts r) : splitLine (renderRow r) = (r.path, pkText r) := by
  obtain ⟨hpne, hpns⟩ := pkText_props r hf
  obtain ⟨pad', last, hpad'⟩ := (List.eq_nil_or_concat r.pad).resolve_left hf.padNe
  rw [List.concat_eq_append, hf.pad last (by rw [hpad']; simp)] at hpad'
  have hsp : ∀ c ∈ pad', isSpace c = true := fun c hc => by
    rw [hf.pad c (by rw [hpad']; exact List.mem_append_left _ hc)]; rfl
  have hrender : renderRow r = (r.path ++ pad') ++ ' ' :: pkText r := by
    rw [renderRow, hpad', List.append_assoc, List.append_assoc, List.append_assoc]; rfl
  -- the rendered row is already trimmed: it starts with the path and ends with the package names
  have hstrip : strip (renderRow r) = renderRow r := by
    refine strip_of_trimmed ?_ ?_
    · obtain ⟨c, cs, hp⟩ := List.exists_cons_of_ne_nil hf.pathNe
      rw [renderRow, hp]
      exact (hp ▸ hf.pathHead : headP isSpace (c :: cs) = false)
    · rw [show renderRow r = r.path ++ r.pad ++ pkText r from rfl, lastP_append_ne _ _ _ hpne]
      exact lastP_of_all _ _ hpne fun x hx => by rw [hpns x hx]; rfl
  have h1 : strip (r.path ++ pad') = r.path :=
    strip_core [] r.path pad' (List.forall_mem_nil _) hsp hf.pathHead hf.pathLast
  rw [splitLine, hstrip, hrender, rpartitionChar_split ' ' _ _ fun hm => absurd (hpns ' ' hm) (by decide), h1,
    strip_of_all hpns]

theorem names_row (r : Row) (hf : RowFacts r) :
    (splitChar ',' (pkText r)).map bareName = r.pkgs.map (·.2) := by
  unfold pkText
  have hne : r.pkgs.map qualified ≠ [] := by
    cases hp : r.pkgs with
    | nil => exact absurd hp hf.pkgsNe
    | cons p ps => simp
  rw [splitChar_join ',' _ hne (by
    intro t ht hm
    simp only [List.mem_map] at ht
    obtain ⟨p, hp, rfl⟩ := ht
    exact ((qualified_chars p (hf.pkgs p hp)).2 ',' hm).2 rfl), List.map_map]
  apply List.map_congr_left
  intro p hp
  exact bareName_qualified p (hf.pkgs p hp)

theorem row_not_header (r : Row) (hf : RowFacts r) : isHeaderRow (splitLine (renderRow r)) = false := by
  rw [splitLine_row r hf]
  cases h : isHeaderRow (r.path, pkText r) with
  | false => rfl
  | true =>
    simp only [isHeaderRow, Bool.and_eq_true, decide_eq_true_eq] at h
    exact absurd ⟨h.1, h.2⟩ hf.notHeader

theorem renderRow_noNl (r : Row) (hf : RowFacts r) : '\n' ∉ renderRow r := by
  intro hm
  simp only [renderRow, List.mem_append] at hm
  rcases hm with (hm | hm) | hm
  · exact hf.pathNoNl hm
  · exact absurd (hf.pad _ hm) (by decide)
  · have := (pkText_props r hf).2 '\n' hm
    revert this; decide

theorem headerText_decomp (l : Str) (h : isHeaderText l = true) :
    ∃ mid, strip l = ("FILE".toList ++ mid) ++ ' ' :: "LOCATION".toList ∧ ∀ c ∈ mid, c = ' ' := by
  simp only [isHeaderText, Bool.and_eq_true, decide_eq_true_eq, List.all_eq_true, beq_iff_eq] at h
  -- 4 and 12 as in `isHeaderText`: the length of `FILE`, and of `FILE` and `LOCATION` together
  exact between_blanks _ _ _ 4 12 (by decide +kernel) (by decide +kernel) h.1.1.1 h.1.1.2 h.1.2 h.2

theorem header_words : (∀ c ∈ "FILE".toList, isSpace c = false) ∧ ∀ c ∈ "LOCATION".toList, isSpace c = false := by
  rw [String.toList_ofList, String.toList_ofList]
  decide +kernel

theorem header_isHeaderRow (l : Str) (h : isHeaderText l = true) : isHeaderRow (splitLine l) = true := by
  obtain ⟨mid, hs, hmid⟩ := headerText_decomp l h
  have h1 : strip ("FILE".toList ++ mid) = "FILE".toList :=
    strip_padded [] _ mid (List.forall_mem_nil _) (fun c hc => by rw [hmid c hc]; rfl) header_words.1
  rw [splitLine, hs, rpartitionChar_split ' ' _ _ fun hm => absurd (header_words.2 ' ' hm) (by decide), h1,
    strip_of_all header_words.2]
  simp only [isHeaderRow, decide_true, Bool.and_self]

theorem fileLines_render (lines : List Str) (h : ∀ l ∈ lines, '\n' ∉ l) :
    fileLines (if lines.isEmpty then [] else join ['\n'] lines ++ ['\n']) = lines := by
  cases lines with
  | nil => rfl
  | cons l ls =>
    -- the final line feed is a last, empty, piece
    have e : join ['\n'] (l :: ls) ++ ['\n'] = join ['\n'] ((l :: ls) ++ [[]]) := by
      rw [join1_append '\n' (l :: ls) [[]] (List.cons_ne_nil _ _) (List.cons_ne_nil _ _)]; rfl
    rw [List.isEmpty_cons, if_neg Bool.false_ne_true, fileLines, e, splitChar_join '\n' _ (by simp)
      (List.forall_mem_append.mpr ⟨h, List.forall_mem_singleton.mpr List.not_mem_nil⟩)]
    simp only [List.getLast?_concat, List.dropLast_concat]

theorem run_skip (hasHeader : Bool) (s : St) (ls : List Str) (hs : s.inTable = false)
    (h : ∀ l ∈ ls, isHeaderRow (splitLine l) = false) : run hasHeader s ls = .ok s := by
  induction ls with
  | nil => rfl
  | cons l ls ih =>
    simp only [run, step, h l (by simp), Bool.false_eq_true, if_false, hs, Bool.not_false, if_true]
    exact ih (fun x hx => h x (by simp [hx]))

theorem run_append (hh : Bool) (s : St) (a b : List Str) :
    run hh s (a ++ b) = match run hh s a with | .ok s' => run hh s' b | .error e => .error e := by
  induction a generalizing s with
  | nil => rfl
  | cons l ls ih =>
    simp only [List.cons_append, run]
    cases step hh s l with
    | error e => rfl
    | ok s' => exact ih s'

def parsed (r : Row) : Str × List Str := (r.path, r.pkgs.map (·.2))

theorem run_rows (hasHeader : Bool) (s : St) (rows : List Row) (hin : s.inTable = true)
    (hf : ∀ r ∈ rows, RowFacts r) : run hasHeader s (rows.map renderRow) = .ok (addRows s (rows.map parsed)) := by
  induction rows generalizing s with
  | nil => rfl
  | cons r rs ih =>
    have hr := hf r (by simp)
    have hin' : (addRow s r.path (r.pkgs.map (·.2))).inTable = true := by rw [(addRow_fields _ _ _).2.2]; exact hin
    rw [List.map_cons, run, step, row_not_header r hr, splitLine_row r hr, hin]
    simp only [Bool.false_eq_true, if_false, Bool.not_true]
    rw [names_row r hr, ih _ hin' fun x hx => hf x (by simp [hx])]
    rfl

theorem addRows_parsed (rows : List Row) :
    addRows ⟨true, [], []⟩ (rows.map parsed) = ⟨true, expectedByPath rows, expectedByPkg rows⟩ := by
  obtain ⟨h1, h2, h3⟩ := addRows_fields (rows.map parsed) ⟨true, [], []⟩
  rw [List.foldl_map] at h1 h2
  simp only [parsed, List.foldl_map] at h1 h2
  cases hs : addRows ⟨true, [], []⟩ (rows.map parsed)
  rw [hs] at h1 h2 h3
  simp only at h1 h2 h3
  rw [h1, h2, h3]; rfl

theorem parse_render (i : Input) (hw : wf i = true) : parseContents (fileLines i.text) i.hasHeader = expected i := by
  simp only [wf, Bool.and_eq_true, List.all_eq_true, Bool.not_eq_true', Bool.or_eq_true, beq_iff_eq] at hw
  obtain ⟨⟨⟨⟨hrows, hnarr⟩, hhdr⟩, hfree⟩, htext⟩ := hw
  have hrf : ∀ r ∈ i.rows, RowFacts r := fun r hr => rowFacts r (hrows r hr)
  have hnarrNH : ∀ l ∈ i.narrative, isHeaderRow (splitLine l) = false := fun l hl => (hnarr l hl).2
  have hrowNH : ∀ l ∈ i.rows.map renderRow, isHeaderRow (splitLine l) = false :=
    List.forall_mem_map.mpr fun r hr => row_not_header r (hrf r hr)
  have hhdr' : ∀ h, i.headerRow = some h → isHeaderText h = true ∧ '\n' ∉ h := fun h hh => by
    rw [hh] at hhdr
    simp only [Bool.and_eq_true, Bool.not_eq_true'] at hhdr
    exact ⟨hhdr.1.1, by simpa using hhdr.1.2⟩
  have hlines : fileLines i.text =
      i.narrative ++ (match i.headerRow with | some h => [h] | none => []) ++ i.rows.map renderRow := by
    rw [htext]
    refine fileLines_render _ (List.forall_mem_append.mpr ⟨List.forall_mem_append.mpr
      ⟨fun l hl => by simpa using (hnarr l hl).1.1.1, ?_⟩,
      List.forall_mem_map.mpr fun r hr => renderRow_noNl r (hrf r hr)⟩)
    cases hh : i.headerRow with
    | none => exact List.forall_mem_nil _
    | some h => exact List.forall_mem_singleton.mpr (hhdr' h hh).2
  rw [hlines, parseContents, expected]
  cases hhas : i.hasHeader with
  | false =>
    -- no free text unless a header is declared
    have hn : i.narrative = [] := by
      rcases hfree with h | h
      · rw [hhas] at h; cases h
      · simpa using h
    rw [hn, List.nil_append]
    cases hh : i.headerRow with
    | none => rw [List.nil_append, Bool.not_false, run_rows false _ i.rows rfl hrf, addRows_parsed]; rfl
    | some h =>
      simp only [List.singleton_append, run, step, header_isHeaderRow h (hhdr' h hh).1, if_true, Bool.not_false]
  | true =>
    rw [List.append_assoc, run_append, run_skip true _ _ rfl hnarrNH]
    cases hh : i.headerRow with
    | none => simp only [List.nil_append]; rw [run_skip true _ _ rfl hrowNH]; rfl
    | some h =>
      simp only [List.singleton_append, run, step, header_isHeaderRow h (hhdr' h hh).1, if_true, Bool.not_true,
        Bool.false_eq_true, if_false]
      rw [run_rows true _ i.rows rfl hrf, addRows_parsed]; rfl

/-- **C18** — for every table of the grammar (any number of rows, paths with embedded spaces, one to
many qualified package names per row, any column padding, with or without header narrative) the model
of `parse_contents` returns exactly the expected mappings — each row's path maps to the bare package
names of that row in order, each package to the paths of the rows naming it in file order — free text
before a declared header is ignored, and a declared header that is missing or an undeclared header
that is present raises. -/
theorem sound (i : Input) : holdsOn i (model i) = true := by
  unfold holdsOn
  cases hw : wf i with
  | false => rfl
  | true => simp only [model, parse_render i hw, decide_true, Bool.and_self, Bool.or_true]

end Props.C18
