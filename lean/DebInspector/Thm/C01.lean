/-
C01 — Version ordering is exactly dpkg's ordering: property theorems.
-/
import DebInspector.Props.C01
import DebInspector.Proofs.VersionOrder
import DebInspector.Proofs.Verrevcmp

namespace Props.C01
open Py Spec Spec.VerOrder Model.Version Proofs.VersionParse Proofs.VersionOrder

/-- for every pair of accepted strings — any length, any digit-run size, any number of leading
zeros — the three-way result is dpkg's order of their decompositions -/
theorem compareVersions_eq_dpkg (a b : Str) (va vb : Ver)
    (ha : fromString a = .ok va) (hb : fromString b = .ok vb) :
    compareVersions a b = .ok (dpkgCmpVersions (strip a) (strip b)) :=
  compareVersions_eq a b va vb ha hb

/-- `compare_strings` on component strings is dpkg's order on components -/
theorem compareStrings_eq_dpkg (x y : Str) (hx : x.all Policy.upChar = true) (hy : y.all Policy.upChar = true) :
    compareStrings x y = .ok (dpkgCmpStr x y) :=
  compareStrings_dpkg x y hx hy

/-- **C01** for every pair of Unicode strings -/
theorem sound (i : Input) : holdsOn i (model i) = true := by
  obtain ⟨a, b⟩ := i
  have hc := compareVersions_cases a b
  unfold holdsOn model
  cases hm : compareVersions a b with
  | error x =>
    rw [hm] at hc
    rcases hc with h | h <;> simp [mustAccept_of_error h, Props.isOk]
  | ok r =>
    rw [hm] at hc
    simp [hc.2, dpkgCmpVersions, Props.isOk]

/-- **C01 on components**: `compare_strings` on any two strings over the component alphabet -/
theorem soundS (i : Input) : holdsOnS i (modelS i) = true := by
  obtain ⟨x, y⟩ := i
  unfold holdsOnS componentOk
  cases hx : x.all Policy.upChar with
  | false => rfl
  | true =>
    cases hy : y.all Policy.upChar with
    | false => rfl
    | true => rw [modelS, compareStrings_eq_dpkg x y hx hy]; exact beq_self_eq_true _

/-- **against dpkg's C code**: for every pair of accepted strings the model of `compare_versions`
returns the sign of the transliterated `dpkg_version_compare` on the `parseversion` decompositions -/
theorem compareVersions_eq_dpkgC (a b : Str) (va vb : Ver)
    (ha : fromString a = .ok va) (hb : fromString b = .ok vb) :
    compareVersions a b = .ok (Dpkg.compareStr (strip a) (strip b)) := by
  rw [compareVersions_eq_dpkg a b va vb ha hb, Proofs.Verrevcmp.compareStr_eq_declarative]

/-- the transliterated C `verrevcmp` and the declarative order agree on every pair of strings -/
theorem verrevcmp_eq_declarative (x y : Str) : Dpkg.sign (Dpkg.verrevcmp x y) = dpkgCmpStr x y :=
  Proofs.Verrevcmp.verrevcmp_eq x y

/-- **C01 against the C transliteration**, for every pair of Unicode strings -/
theorem soundC (i : Input) : holdsOnC i (model i) = true := by
  obtain ⟨a, b⟩ := i
  have hc := compareVersions_cases a b
  unfold holdsOnC model
  cases hm : compareVersions a b with
  | error x => rfl
  | ok r =>
    rw [hm] at hc
    simp [hc.2, Proofs.Verrevcmp.compareStr_eq_declarative, dpkgCmpVersions]

/-- "a missing revision counts as revision 0": the empty component and "0" are order-equal (and compare alike against
every component: `Proofs.Verrevcmp.cmpStr_zero_left`, `cmpStr_zero_right`) -/
theorem empty_eq_zero : cmpStr dpkgRk [] ['0'] = .eq :=
  (Proofs.Verrevcmp.cmpStr_zero_right []).trans (Proofs.VersionCompare.cmpStr_nil_nil _)

/-- non-vacuity and the named orderings of the property -/
example : model ("1.0~rc1".toList, "1.0".toList) = .ok (-1) := by
  -- the kernel would otherwise encode each literal to UTF-8 and decode it again
  rw [String.toList_ofList, String.toList_ofList]
  decide +kernel
example : model ("1.0".toList, "1.0a".toList) = .ok (-1) := by
  rw [String.toList_ofList, String.toList_ofList]
  decide +kernel
example : model ("1.0a1".toList, "1.0+1".toList) = .ok (-1) := by
  rw [String.toList_ofList, String.toList_ofList]
  decide +kernel
example : model ("1.010".toList, "1.9".toList) = .ok 1 := by
  rw [String.toList_ofList, String.toList_ofList]
  decide +kernel
example : model ("0:1.0-0".toList, "1.00".toList) = .ok 0 := by
  rw [String.toList_ofList, String.toList_ofList]
  decide +kernel
example : model ("1:0".toList, "9".toList) = .ok 1 := by
  rw [String.toList_ofList, String.toList_ofList]
  decide +kernel

end Props.C01
