/-
C19 — the maintainer clause: for every name of single-spaced words of atom characters and dots and every address that is
a dot-atom, alone or followed by `@` and a second dot-atom, the model of `MaintainerField.from_value("name <address>")` — through the model of the standard
library's address parser — returns exactly that name and that address, and prints back unchanged.
-/
import DebInspector.Props.C19
import DebInspector.Proofs.SplitJoin

namespace Props.C19M
open Py Model.Addr Props.C19

/-! ### character classes -/

-- the four sets as lists of character literals: deciding a fact about a concrete character on these is quick, on the
-- string literals of the model every `decide` decodes the string again
theorem atomends_eq : atomends = ['(', ')', '<', '>', '@', ',', ':', ';', '.', '"', '[', ']', ' ', '\t', '\r', '\n'] := by
  decide +kernel
theorem phraseends_eq : phraseends = ['(', ')', '<', '>', '@', ',', ':', ';', '"', '[', ']', ' ', '\t', '\r', '\n'] := by
  decide +kernel
theorem fws_eq : fws = [' ', '\t', '\r', '\n'] := by decide +kernel
theorem lws_eq : lws = [' ', '\t'] := by decide +kernel

/-- what the scanners ask of a character that is none of `atomends` -/
structure NotEnd (c : Char) : Prop where
  ae : atomends.contains c = false
  pe : phraseends.contains c = false
  lw : lws.contains c = false
  fw : fws.contains c = false
  dot : c ≠ '.'
  quo : c ≠ '"'
  par : c ≠ '('
  bra : c ≠ '['
  att : c ≠ '@'
  gt : c ≠ '>'
  col : c ≠ ':'
  nl : c ≠ '\n'
  cr : c ≠ '\r'

theorem notEnd {c : Char} (h : atomends.contains c = false) : NotEnd c := by
  have hm : ∀ d ∈ atomends, c ≠ d := fun d hd e => by rw [e, List.contains_iff_mem.mpr hd] at h; cases h
  have hn : ∀ l : Str, (∀ d ∈ l, d ∈ atomends) → l.contains c = false := fun l hl => by
    cases hc : l.contains c with
    | false => rfl
    | true => exact absurd rfl (hm c (hl c (List.contains_iff_mem.mp hc)))
  rw [atomends_eq] at hm hn
  exact {
    ae := h
    pe := hn _ (by rw [phraseends_eq]; decide)
    lw := hn _ (by rw [lws_eq]; decide)
    fw := hn _ (by rw [fws_eq]; decide)
    dot := hm _ (by decide), quo := hm _ (by decide), par := hm _ (by decide), bra := hm _ (by decide)
    att := hm _ (by decide), gt := hm _ (by decide), col := hm _ (by decide), nl := hm _ (by decide)
    cr := hm _ (by decide) }

theorem atomChar_ends : ∀ d ∈ atomends, atomChar d = false := by decide +kernel
theorem atomChar_space : ∀ n ∈ Generated.spaceCodes, atomChar (Char.ofNat n) = false := by decide +kernel

theorem atomChar_notEnd {c : Char} (h : atomChar c = true) : NotEnd c := by
  apply notEnd
  cases hc : atomends.contains c with
  | false => rfl
  | true => rw [atomChar_ends c (List.contains_iff_mem.mp hc)] at h; cases h

theorem atomChar_notSpace {c : Char} (h : atomChar c = true) : isSpace c = false := by
  cases hc : isSpace c with
  | false => rfl
  | true =>
    have := atomChar_space c.toNat (List.contains_iff_mem.mp hc)
    rw [Char.ofNat_toNat, h] at this; cases this

/-! ### words of a name, atoms of an address -/

def WordOk (w : Str) : Prop := w ≠ [] ∧ ∀ c ∈ w, atomChar c = true ∨ c = '.'

def AtomOk (a : Str) : Prop := a ≠ [] ∧ ∀ c ∈ a, atomChar c = true

theorem atom_ae {a : Str} (h : AtomOk a) : ∀ c ∈ a, atomends.contains c = false :=
  fun c hc => (atomChar_notEnd (h.2 c hc)).ae

theorem atom_nonblank {a : Str} (h : AtomOk a) : isBlankPy a = false := by
  obtain ⟨c, cs, rfl, hc⟩ := exists_cons_of_forall h.1 h.2
  simp [isBlankPy, atomChar_notSpace hc]

/-- what `getphraselist()` and `gotonext()` ask of a character of a word -/
theorem word_char {c : Char} (h : atomChar c = true ∨ c = '.') :
    phraseends.contains c = false ∧ fws.contains c = false ∧ lws.contains c = false ∧ c ≠ '"' ∧ c ≠ '(' ∧ c ≠ '\n' ∧ c ≠ '\r' := by
  rcases h with h | rfl
  · have := atomChar_notEnd h
    exact ⟨this.pe, this.fw, this.lw, this.quo, this.par, this.nl, this.cr⟩
  · rw [phraseends_eq, fws_eq, lws_eq]; decide

/-! ### one step of each scanner -/

theorem getAtom_run (ends w : Str) (t : Char) (r : Str) (hw : ∀ c ∈ w, ends.contains c = false)
    (ht : ends.contains t = true) : getAtom ends (w ++ t :: r) = (w, t :: r) := by
  induction w with
  | nil => simp only [List.nil_append, getAtom, ht, if_true]
  | cons x xs ih =>
    simp only [List.cons_append, getAtom, hw x (by simp), Bool.false_eq_true, if_false]
    rw [ih (fun c hc => hw c (by simp [hc]))]

theorem gotoNext_stop (fuel : Nat) (c : Char) (rest : Str) (cl : List Str) (h1 : lws.contains c = false)
    (h2 : c ≠ '\n') (h3 : c ≠ '\r') (h4 : c ≠ '(') : gotoNext (fuel + 1) (c :: rest) cl = ([], c :: rest, cl) := by
  simp only [gotoNext, h1, h2, h3, h4, decide_false, Bool.or_self, Bool.false_eq_true, if_false]

theorem gotoNext_nil (fuel : Nat) (cl : List Str) : gotoNext fuel [] cl = ([], [], cl) := by
  cases fuel <;> rfl

theorem gotoNext_atomChar {c : Char} (h : atomChar c = true) (fuel : Nat) (rest : Str) (cl : List Str) :
    gotoNext (fuel + 1) (c :: rest) cl = ([], c :: rest, cl) :=
  have := atomChar_notEnd h
  gotoNext_stop fuel c rest cl this.lw this.nl this.cr this.par

theorem getPhraseList_word {w : Str} (hw : WordOk w) (fuel : Nat) (r : Str) (cl : List Str) :
    getPhraseList (fuel + 1) (w ++ ' ' :: r) cl =
      (w :: (getPhraseList fuel (' ' :: r) cl).1, (getPhraseList fuel (' ' :: r) cl).2.1, (getPhraseList fuel (' ' :: r) cl).2.2) := by
  obtain ⟨c, cs, hc, hcc⟩ := exists_cons_of_forall hw.1 hw.2
  obtain ⟨hpe, hfw, _, hq, hp, _, _⟩ := word_char hcc
  have ha : getAtom phraseends (w ++ ' ' :: r) = (w, ' ' :: r) :=
    getAtom_run phraseends w ' ' r (fun d hd => (word_char (hw.2 d hd)).1) (by rw [phraseends_eq]; decide)
  rw [hc] at ha ⊢
  simp only [List.cons_append, getPhraseList, hfw, hq, hp, hpe, Bool.false_eq_true, if_false]
  rw [← List.cons_append, ha]

theorem getPhraseList_sp (fuel : Nat) (r : Str) (cl : List Str) :
    getPhraseList (fuel + 1) (' ' :: r) cl = getPhraseList fuel r cl := by
  rw [getPhraseList, fws_eq]; rfl

theorem getPhraseList_langle (fuel : Nat) (r : Str) (cl : List Str) :
    getPhraseList (fuel + 1) ('<' :: r) cl = ([], '<' :: r, cl) := by
  rw [getPhraseList, fws_eq, phraseends_eq]; rfl

theorem joinSp_join (ws : List Str) : joinSp ws = join [' '] ws :=
  eq_join rfl (fun _ => rfl) (fun _ _ _ => rfl) ws

theorem joinSp_head {ws : List Str} (hne : ws ≠ []) (hW : ∀ w ∈ ws, WordOk w) (X : Str) :
    ∃ c Y, joinSp ws ++ X = c :: Y ∧ (atomChar c = true ∨ c = '.') :=
  joinSp_join ws ▸ join_head [' '] hne hW X

theorem joinSp_cons2 (w v : Str) (vs : List Str) (X : Str) :
    joinSp (w :: v :: vs) ++ X = w ++ ' ' :: (joinSp (v :: vs) ++ X) :=
  List.append_assoc w (' ' :: joinSp (v :: vs)) X

/- Fuel: every step of a scanner eats at least one character, so fuel above the length of what it reads is enough: the
phrase and the `" <"` that ends it (`+ 2`), the local part and its terminator (`+ 1`), the domain (whose `>` takes the
last unit). -/
theorem phrase_words (ws : List Str) (hne : ws ≠ []) (hW : ∀ w ∈ ws, WordOk w) (R : Str) (cl : List Str) :
    ∀ fuel, (joinSp ws).length + 2 < fuel → getPhraseList fuel (joinSp ws ++ ' ' :: '<' :: R) cl = (ws, '<' :: R, cl) := by
  induction ws with
  | nil => exact absurd rfl hne
  | cons w rest ih =>
    intro fuel hf
    have hw := hW w (by simp)
    obtain ⟨f2, rfl⟩ : ∃ f2, fuel = f2 + 1 + 1 := ⟨fuel - 2, by omega⟩
    cases rest with
    | nil =>
      obtain ⟨f3, rfl⟩ : ∃ f3, f2 = f3 + 1 := ⟨f2 - 1, by omega⟩
      show getPhraseList _ (w ++ ' ' :: '<' :: R) cl = _
      rw [getPhraseList_word hw, getPhraseList_sp, getPhraseList_langle]
    | cons v vs =>
      have hlen : (joinSp (w :: v :: vs)).length = w.length + 1 + (joinSp (v :: vs)).length := by
        simp [joinSp]; omega
      have hwl := List.length_pos_iff.mpr hw.1
      rw [joinSp_cons2, getPhraseList_word hw, getPhraseList_sp,
        ih (by simp) (fun x hx => hW x (by simp [hx])) f2 (by omega)]

/-! ### dot-atoms -/

def joinDot : List Str → Str
  | [] => []
  | [a] => a
  | a :: as => a ++ '.' :: joinDot as

def pieces : List Str → List Str
  | [] => []
  | [a] => [a]
  | a :: as => a :: ['.'] :: pieces as

theorem joinDot_join (as : List Str) : joinDot as = join ['.'] as :=
  eq_join rfl (fun _ => rfl) (fun _ _ _ => rfl) as

theorem pieces_flatten (as : List Str) : (pieces as).flatten = joinDot as := by
  induction as with
  | nil => rfl
  | cons a rest ih =>
    cases rest with
    | nil => simp [pieces, joinDot]
    | cons b bs => simp only [pieces, joinDot, List.flatten_cons, ih]; simp

theorem joinDot_cons2 (a b : Str) (bs : List Str) (X : Str) :
    joinDot (a :: b :: bs) ++ X = a ++ '.' :: (joinDot (b :: bs) ++ X) :=
  List.append_assoc a ('.' :: joinDot (b :: bs)) X

theorem joinDot_cons2_length (a b : Str) (bs : List Str) :
    (joinDot (a :: b :: bs)).length = a.length + 1 + (joinDot (b :: bs)).length := by
  simp [joinDot]; omega

theorem joinDot_head {as : List Str} (hne : as ≠ []) (hA : ∀ a ∈ as, AtomOk a) (X : Str) :
    ∃ c Y, joinDot as ++ X = c :: Y ∧ atomChar c = true :=
  joinDot_join as ▸ join_head ['.'] hne hA X

theorem gotoNext_atoms {as : List Str} (hne : as ≠ []) (hA : ∀ a ∈ as, AtomOk a) (X : Str) (fuel : Nat) (cl : List Str) :
    gotoNext (fuel + 1) (joinDot as ++ X) cl = ([], joinDot as ++ X, cl) := by
  obtain ⟨c, Y, e, hc⟩ := joinDot_head hne hA X
  rw [e]; exact gotoNext_atomChar hc fuel Y cl

theorem popWs_nonblank (l : List Str) (a : Str) (h : isBlankPy a = false) : popWs (l ++ [a]) = l ++ [a] := by
  simp [popWs, h]

/-- a character that ends the local part: `@` or `>` -/
structure Term (t : Char) : Prop where
  ae : atomends.contains t = true
  lw : lws.contains t = false
  nl : t ≠ '\n'
  cr : t ≠ '\r'
  par : t ≠ '('
  dot : t ≠ '.'
  quo : t ≠ '"'

theorem term_at : Term '@' :=
  ⟨by rw [atomends_eq]; decide, by rw [lws_eq]; decide, by decide, by decide, by decide, by decide, by decide⟩
theorem term_rangle : Term '>' :=
  ⟨by rw [atomends_eq]; decide, by rw [lws_eq]; decide, by decide, by decide, by decide, by decide, by decide⟩

theorem addrSpecLoop_atom {a : Str} (ha : AtomOk a) {t : Char} (hte : atomends.contains t = true)
    (r : Str) (cl : List Str) (hg : ∀ fuel, gotoNext (fuel + 1) (t :: r) cl = ([], t :: r, cl)) (fuel : Nat) (acc : List Str) :
    addrSpecLoop (fuel + 1) (a ++ t :: r) cl acc = addrSpecLoop fuel (t :: r) cl (acc ++ [a]) := by
  obtain ⟨c, cs, hc, hcc⟩ := exists_cons_of_forall ha.1 ha.2
  have hn := atomChar_notEnd hcc
  have hga := getAtom_run atomends a t r (atom_ae ha) hte
  rw [hc] at hga ⊢
  simp only [List.cons_append, addrSpecLoop, hn.dot, hn.quo, hn.ae, Bool.false_eq_true, if_false]
  rw [← List.cons_append, hga]
  simp only [hg, List.isEmpty_nil, if_true]

/-- the local part: atoms and dots up to the `@` (or the `>` of an address without a domain) -/
theorem local_loop (t : Char) (ht : Term t) (as : List Str) (hne : as ≠ []) (hA : ∀ a ∈ as, AtomOk a) (R : Str) (cl : List Str) :
    ∀ fuel (acc : List Str), (joinDot as).length + 1 < fuel → (∀ x ∈ acc.getLast?, isBlankPy x = false) →
      addrSpecLoop fuel (joinDot as ++ t :: R) cl acc = (acc ++ pieces as, t :: R, cl) := by
  induction as with
  | nil => exact absurd rfl hne
  | cons a rest ih =>
    intro fuel acc hf hacc
    have ha := hA a (by simp)
    have hpop := popWs_nonblank acc a (atom_nonblank ha)
    obtain ⟨f2, rfl⟩ : ∃ f2, fuel = f2 + 1 + 1 := ⟨fuel - 2, by omega⟩
    cases rest with
    | nil =>
      show addrSpecLoop _ (a ++ t :: R) cl acc = _
      rw [addrSpecLoop_atom ha ht.ae R cl (fun f => gotoNext_stop f t R cl ht.lw ht.nl ht.cr ht.par)]
      simp only [addrSpecLoop, ht.dot, ht.quo, ht.ae, if_false, if_true, hpop]
      rfl
    | cons b bs =>
      have hlen := joinDot_cons2_length a b bs
      have hal := List.length_pos_iff.mpr ha.1
      have hB : ∀ x ∈ b :: bs, AtomOk x := fun x hx => hA x (by simp [hx])
      rw [joinDot_cons2, addrSpecLoop_atom ha (by rw [atomends_eq]; decide) _ cl
        (fun f => gotoNext_stop f '.' _ cl (by rw [lws_eq]; decide) (by decide) (by decide) (by decide))]
      -- after the dot, the next atom starts at once
      simp only [addrSpecLoop, if_true, hpop, gotoNext_atoms (by simp) hB]
      rw [ih (by simp) hB f2 _ (by omega) (by intro x hx; simp at hx; subst hx; decide)]
      simp [pieces, List.append_assoc]

theorem getDomain_atom {a : Str} (ha : AtomOk a) {t : Char} (hte : atomends.contains t = true) (r : Str) (cl : List Str)
    (fuel : Nat) :
    getDomain (fuel + 1) (a ++ t :: r) cl =
      (a ++ (getDomain fuel (t :: r) cl).1, (getDomain fuel (t :: r) cl).2.1, (getDomain fuel (t :: r) cl).2.2) ∧
    domainHitsAt (fuel + 1) (a ++ t :: r) = domainHitsAt fuel (t :: r) := by
  obtain ⟨c, cs, hc, hcc⟩ := exists_cons_of_forall ha.1 ha.2
  have hn := atomChar_notEnd hcc
  have hga := getAtom_run atomends a t r (atom_ae ha) hte
  rw [hc] at hga ⊢
  simp only [List.cons_append, getDomain, domainHitsAt, hn.lw, hn.par, hn.bra, hn.dot, hn.att, hn.ae, Bool.false_eq_true,
    if_false]
  rw [← List.cons_append, hga]
  exact ⟨rfl, rfl⟩

theorem getDomain_dot (fuel : Nat) (r : Str) (cl : List Str) :
    getDomain (fuel + 1) ('.' :: r) cl = ('.' :: (getDomain fuel r cl).1, (getDomain fuel r cl).2.1, (getDomain fuel r cl).2.2) ∧
    domainHitsAt (fuel + 1) ('.' :: r) = domainHitsAt fuel r := by
  rw [getDomain, domainHitsAt, lws_eq]; exact ⟨rfl, rfl⟩

theorem getDomain_rangle (fuel : Nat) (r : Str) (cl : List Str) :
    getDomain (fuel + 1) ('>' :: r) cl = ([], '>' :: r, cl) ∧ domainHitsAt (fuel + 1) ('>' :: r) = false := by
  rw [getDomain, domainHitsAt, lws_eq, atomends_eq]; exact ⟨rfl, rfl⟩

theorem domain_run (ds : List Str) (hne : ds ≠ []) (hD : ∀ a ∈ ds, AtomOk a) (R : Str) (cl : List Str) :
    ∀ fuel, (joinDot ds).length < fuel →
      getDomain fuel (joinDot ds ++ '>' :: R) cl = (joinDot ds, '>' :: R, cl) ∧
      domainHitsAt fuel (joinDot ds ++ '>' :: R) = false := by
  induction ds with
  | nil => exact absurd rfl hne
  | cons a rest ih =>
    intro fuel hf
    have ha := hD a (by simp)
    have hal := List.length_pos_iff.mpr ha.1
    obtain ⟨f2, rfl⟩ : ∃ f2, fuel = f2 + 1 + 1 := ⟨fuel - 2, by cases rest <;> simp [joinDot] at hf <;> omega⟩
    cases rest with
    | nil =>
      show getDomain _ (a ++ '>' :: R) cl = _ ∧ domainHitsAt _ (a ++ '>' :: R) = _
      obtain ⟨g, h⟩ := getDomain_atom ha term_rangle.ae R cl (f2 + 1)
      rw [g, h, (getDomain_rangle f2 R cl).1, (getDomain_rangle f2 R cl).2, List.append_nil]
      exact ⟨rfl, rfl⟩
    | cons b bs =>
      have hlen := joinDot_cons2_length a b bs
      obtain ⟨g, h⟩ := getDomain_atom ha (t := '.') (by rw [atomends_eq]; decide) (joinDot (b :: bs) ++ '>' :: R) cl (f2 + 1)
      obtain ⟨g', h'⟩ := getDomain_dot f2 (joinDot (b :: bs) ++ '>' :: R) cl
      obtain ⟨i1, i2⟩ := ih (by simp) (fun x hx => hD x (by simp [hx])) f2 (by omega)
      rw [joinDot_cons2, g, h, g', h', i1, i2]
      exact ⟨rfl, rfl⟩

/-! ### the maintainer clause -/

theorem addrspec_full (ls ds : List Str) (hls : ls ≠ []) (hds : ds ≠ [])
    (hL : ∀ a ∈ ls, AtomOk a) (hD : ∀ a ∈ ds, AtomOk a) :
    getAddrSpec (joinDot ls ++ '@' :: joinDot ds ++ ['>']) [] = (joinDot ls ++ '@' :: joinDot ds, ['>'], []) := by
  have e : joinDot ls ++ '@' :: joinDot ds ++ ['>'] = joinDot ls ++ '@' :: (joinDot ds ++ ['>']) := by simp
  obtain ⟨i1, i2⟩ := domain_run ds hds hD [] [] ((joinDot ds ++ ['>']).length + 1) (by simp; omega)
  have hdne : (joinDot ds).isEmpty = false := by
    obtain ⟨c, Y, h, _⟩ := joinDot_head hds hD []
    rw [List.append_nil] at h; rw [h]; rfl
  unfold getAddrSpec
  simp only
  rw [e, gotoNext_atoms hls hL, local_loop '@' term_at ls hls hL _ [] _ [] (by simp <;> omega) (by simp)]
  simp only [gotoNext_atoms hds hD, i1, i2, hdne, List.nil_append, Bool.or_self, Bool.false_eq_true, if_false, pieces_flatten]

theorem addrspec_local (ls : List Str) (hls : ls ≠ []) (hL : ∀ a ∈ ls, AtomOk a) :
    getAddrSpec (joinDot ls ++ ['>']) [] = (joinDot ls, ['>'], []) := by
  unfold getAddrSpec
  simp only
  rw [gotoNext_atoms hls hL, local_loop '>' term_rangle ls hls hL [] [] _ [] (by simp) (by simp)]
  simp [pieces_flatten]

theorem first_addr_of (ws : List Str) (hws : ws ≠ []) (hW : ∀ w ∈ ws, WordOk w) (A : Str)
    (hA : ∃ a0 A', A = a0 :: A' ∧ atomChar a0 = true) (has : getAddrSpec (A ++ ['>']) [] = (A, ['>'], [])) :
    firstAddress (joinSp ws ++ ' ' :: '<' :: (A ++ ['>'])) = .ok (some (joinSp ws, A)) := by
  obtain ⟨c0, V, hV, hc0⟩ := joinSp_head hws hW (' ' :: '<' :: (A ++ ['>']))
  obtain ⟨_, _, hl, _, hp, hn, hr⟩ := word_char hc0
  obtain ⟨a0, A', rfl, ha0⟩ := hA
  have hn0 := atomChar_notEnd ha0
  unfold firstAddress
  simp only
  -- `g0`, `p`: nothing to skip, the phrase is the name
  rw [hV, gotoNext_stop _ c0 V [] hl hn hr hp]
  simp only
  rw [← hV, phrase_words ws hws hW _ [] _ (by simp; omega)]
  simp only
  rw [gotoNext_stop _ '<' _ [] (by rw [lws_eq]; decide) (by decide) (by decide) (by decide)]
  have h1 : ¬ (('<' : Char) = '.' ∨ ('<' : Char) = '@') := by decide
  have h2 : ('<' : Char) ≠ ':' := by decide
  simp only [Bool.or_eq_true, decide_eq_true_eq, h1, h2, if_false, if_true]
  -- the branch `c = '<'`: `routeLoop` meets the addr-spec at once
  rw [List.cons_append, gotoNext_atomChar ha0]
  simp only [routeLoop, Bool.false_eq_true, if_false, hn0.gt, hn0.att, hn0.col]
  rw [← List.cons_append, has]
  rfl

theorem first_addr (ws ls ds : List Str) (hws : ws ≠ []) (hW : ∀ w ∈ ws, WordOk w) (hls : ls ≠ []) (hds : ds ≠ [])
    (hL : ∀ a ∈ ls, AtomOk a) (hD : ∀ a ∈ ds, AtomOk a) :
    firstAddress (joinSp ws ++ ' ' :: '<' :: (joinDot ls ++ '@' :: joinDot ds ++ ['>'])) =
      .ok (some (joinSp ws, joinDot ls ++ '@' :: joinDot ds)) :=
  first_addr_of ws hws hW _ (joinDot_head hls hL _) (addrspec_full ls ds hls hds hL hD)

theorem first_addr_local (ws ls : List Str) (hws : ws ≠ []) (hW : ∀ w ∈ ws, WordOk w) (hls : ls ≠ [])
    (hL : ∀ a ∈ ls, AtomOk a) :
    firstAddress (joinSp ws ++ ' ' :: '<' :: (joinDot ls ++ ['>'])) = .ok (some (joinSp ws, joinDot ls)) :=
  first_addr_of ws hws hW _ (by simpa using joinDot_head hls hL []) (addrspec_local ls hls hL)

/-- a part of an address that `wfM` accepts is a dot-atom -/
theorem dotAtom_of_split {p : Str} (hp : ∀ a ∈ splitChar '.' p, a.isEmpty = false ∧ ∀ c ∈ a, atomChar c = true) :
    ∃ ls, ls ≠ [] ∧ (∀ a ∈ ls, AtomOk a) ∧ p = joinDot ls :=
  ⟨splitChar '.' p, splitChar_ne_nil '.' p, fun a ha => ⟨List.isEmpty_eq_false_iff.mp (hp a ha).1, (hp a ha).2⟩,
    by rw [joinDot_join, join_splitChar]⟩

theorem wf_parts (i : InputM) (h : wfM i = true) :
    ∃ ws ls, ws ≠ [] ∧ (∀ w ∈ ws, WordOk w) ∧ i.name = joinSp ws ∧ ls ≠ [] ∧ (∀ a ∈ ls, AtomOk a) ∧
      (i.address = joinDot ls ∨
       ∃ ds, ds ≠ [] ∧ (∀ a ∈ ds, AtomOk a) ∧ i.address = joinDot ls ++ '@' :: joinDot ds) := by
  simp only [wfM, Bool.and_eq_true, Bool.not_eq_true', List.all_eq_true, Bool.or_eq_true, beq_iff_eq] at h
  obtain ⟨⟨_, hwords⟩, hlen, hparts⟩ := h
  suffices ∃ ls, ls ≠ [] ∧ (∀ a ∈ ls, AtomOk a) ∧ (i.address = joinDot ls ∨
      ∃ ds, ds ≠ [] ∧ (∀ a ∈ ds, AtomOk a) ∧ i.address = joinDot ls ++ '@' :: joinDot ds) by
    obtain ⟨ls, h1, h2, h3⟩ := this
    exact ⟨splitChar ' ' i.name, ls, splitChar_ne_nil ' ' i.name,
      fun w hw => ⟨List.isEmpty_eq_false_iff.mp (hwords w hw).1, (hwords w hw).2⟩,
      ((joinSp_join _).trans (join_splitChar ' ' i.name)).symm, h1, h2, h3⟩
  have hjoin := join_splitChar '@' i.address
  rcases hlen with hl | hl
  · obtain ⟨loc, hp⟩ := List.length_eq_one_iff.mp hl
    rw [hp] at hparts hjoin
    obtain ⟨ls, l1, l2, rfl⟩ := dotAtom_of_split (hparts loc List.mem_cons_self).2
    exact ⟨ls, l1, l2, .inl hjoin.symm⟩
  · obtain ⟨loc, dom, hp⟩ : ∃ loc dom, splitChar '@' i.address = [loc, dom] :=
      match splitChar '@' i.address, hl with
      | [loc, dom], _ => ⟨loc, dom, rfl⟩
    rw [hp] at hparts hjoin
    obtain ⟨ls, l1, l2, rfl⟩ := dotAtom_of_split (hparts loc List.mem_cons_self).2
    obtain ⟨ds, d1, d2, rfl⟩ := dotAtom_of_split (hparts dom (List.mem_cons_of_mem _ List.mem_cons_self)).2
    exact ⟨ls, l1, l2, .inr ⟨ds, d1, d2, hjoin.symm.trans (List.append_assoc _ _ _)⟩⟩

theorem maintainer_of (ws : List Str) (hws : ws ≠ []) (hW : ∀ w ∈ ws, WordOk w) (A : Str) (hAne : A.isEmpty = false)
    (hfirst : firstAddress (joinSp ws ++ ' ' :: '<' :: (A ++ ['>'])) = .ok (some (joinSp ws, A))) :
    Model.Addr.maintainer (joinSp ws ++ " <".toList ++ A ++ ['>']) =
      .ok (joinSp ws, some A, joinSp ws ++ " <".toList ++ A ++ ['>']) := by
  have hval : joinSp ws ++ " <".toList ++ A ++ ['>'] = joinSp ws ++ ' ' :: '<' :: (A ++ ['>']) := by
    show joinSp ws ++ [' ', '<'] ++ _ ++ _ = _
    simp [List.append_assoc]
  obtain ⟨c0, V, hV, hc0⟩ := joinSp_head hws hW []
  rw [List.append_nil] at hV
  have hsp0 : isSpace c0 = false := by
    rcases hc0 with h | rfl
    · exact atomChar_notSpace h
    · decide
  have hstrip : strip (joinSp ws ++ ' ' :: '<' :: (A ++ ['>'])) = joinSp ws ++ ' ' :: '<' :: (A ++ ['>']) := by
    have e : joinSp ws ++ ' ' :: '<' :: (A ++ ['>']) = c0 :: ((V ++ ' ' :: '<' :: A) ++ ['>']) := by rw [hV]; simp
    rw [e, strip, lstrip_cons_nonspace _ _ hsp0]
    exact rstrip_of_last _ (by rw [← List.cons_append, lastP_append_cons]; rfl)
  have hne : (joinSp ws).isEmpty = false := by rw [hV]; rfl
  unfold Model.Addr.maintainer parseaddr
  simp only [hval, hstrip, hfirst, hne, hAne, Bool.false_eq_true, if_false]

/-- **C19, maintainer**: on every input of the grammar `wfM`, `from_value` returns the name and the address and `dumps()` the input -/
theorem soundM (i : InputM) : holdsOnM i (modelM i) = true := by
  unfold holdsOnM
  cases hw : wfM i with
  | false => rfl
  | true =>
    obtain ⟨ws, ls, hws, hW, hn, hls, hL, haddr⟩ := wf_parts i hw
    obtain ⟨c, Y, hl, _⟩ := joinDot_head hls hL []
    rw [List.append_nil] at hl
    unfold modelM
    rcases haddr with ha | ⟨ds, hds, hD, ha⟩
    · rw [hn, ha, maintainer_of ws hws hW _ (by rw [hl]; rfl) (first_addr_local ws ls hws hW hls hL)]
      simp
    · rw [hn, ha, maintainer_of ws hws hW _ (by rw [hl]; rfl) (first_addr ws ls ds hws hW hls hds hL hD)]
      simp

/-- the grammar is inhabited by ordinary maintainers -/
example : wfM ⟨"Jane Q. O'Doe".toList, "jane.doe+deb@lists.example.org".toList⟩ = true := by
  -- read the literals as character lists: the kernel then decodes no UTF-8
  rw [String.toList_ofList, String.toList_ofList]
  decide +kernel
example : wfM ⟨"Build Daemon".toList, "buildd".toList⟩ = true := by
  rw [String.toList_ofList, String.toList_ofList]
  decide +kernel

end Props.C19M
