/-
C11 — the multiset comparison of the specification is exact.
-/
import DebInspector.Props.C11
import DebInspector.Proofs.Words

namespace Props.C11
open Py Spec.Words

/-- **`sameMultiset a b` holds exactly when `a` is a permutation of `b`**: no lost word, no invented
word, every word equally often -/
theorem removeAll_perm (a b : List Str) : sameMultiset a b = true ↔ a.Perm b :=
  Proofs.Words.sameMultiset_iff_perm a b

theorem sameMultiset_refl (a : List Str) : sameMultiset a a = true :=
  Proofs.Words.sameMultiset_refl a

/-- non-vacuity: renaming + merging + folding in one text -/
example : (let t := "License: a\nLicense: b\n\njunk x\n\njunk y .\n\nLicense:\n\nfree text\n\nmore\n".toList
    holdsOn t (model t)) = true := by
  -- the kernel would otherwise encode the literal to UTF-8 and decode it again
  rw [String.toList_ofList]
  decide +kernel

end Props.C11
