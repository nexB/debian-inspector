/-
C13 — the K1 negation on its witness, and the theorem of `Thm/C13D.lean` on two concrete documents.
-/
import DebInspector.Thm.C13D

namespace Props.C13
open Py Model.Copyright Props.Dep5

def k1Doc : Doc :=
  let paras : List Dep5.Para :=
    [[⟨"Format".toList, 0, "https://www.debian.org/doc/packaging-manuals/copyright-format/1.0/".toList, []⟩,
      ⟨"Foo".toList, 5, "a".toList, [⟨0, "b".toList⟩]⟩]]
  { paras := paras, seps := [1], text := renderAux paras [1] }

/-- **K1**: the full fixpoint statement is false of the model (and of the implementation, replayed on
every run): an extra field with a continuation line gains indentation on each cycle -/
theorem K1_witness : wf k1Doc = true ∧ holdsOn k1Doc (model k1Doc) = false := by
  -- so that the kernel does not encode each literal to UTF-8 and decode it again
  unfold k1Doc
  repeat rw [String.toList_ofList]
  decide +kernel

theorem K1_partial_witness : holdsOnK1 k1Doc (model k1Doc) = true := Props.C13D.sound_partial k1Doc K1_witness.1

/-- non-vacuity of the fixpoint on a document without multi-line extra fields -/
def okDoc : Doc :=
  let paras : List Dep5.Para :=
    [[⟨"Format".toList, 0, "https://www.debian.org/doc/packaging-manuals/copyright-format/1.0/".toList, []⟩],
     [⟨"Files".toList, 1, "* src/*".toList, []⟩, ⟨"Copyright".toList, 2, "2001-2003, Foo Bar".toList, [⟨0, "Baz".toList⟩]⟩,
      ⟨"Licence".toList, 3, "GPL-2+".toList, [⟨0, "text".toList⟩, ⟨1, []⟩, ⟨2, "verbatim".toList⟩]⟩]]
  { paras := paras, seps := [2, 1], text := renderAux paras [2, 1] }

theorem okDoc_wf : wf okDoc = true := by
  unfold okDoc
  repeat rw [String.toList_ofList]
  decide +kernel

theorem holdsOn_of_noMulti (d : Doc) (o : Obs) (hx : hasMultilineExtra d = false) (h : holdsOnK1 d o = true) :
    holdsOn d o = true := by
  simpa only [holdsOn, holdsOnK1, holdsWith, hx, Bool.and_false, Bool.or_false] using h

theorem fixpoint_example : wf okDoc = true ∧ holdsOn okDoc (model okDoc) = true :=
  ⟨okDoc_wf, holdsOn_of_noMulti _ _ (by decide +kernel) (Props.C13D.sound_partial okDoc okDoc_wf)⟩

end Props.C13
