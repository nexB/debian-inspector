/-
C12 — the look-ahead rule of the generator loop; the run on a document with blanked markers simulates the run on the
original (`sim`), which gives `groups_sound`.
-/
import DebInspector.Props.C12
import DebInspector.Proofs.Deb822
import DebInspector.Proofs.LinesAscii
import DebInspector.Proofs.Assoc

namespace Props.C12
open Py Model.Deb822 Proofs.Deb822 Proofs.LinesAscii

/-- **the look-ahead rule**: whether a blank line met while a field is open joins that field depends on the next line alone -/
theorem absorb_iff (s : List Fld × Fld) (l n : NL) (rest : List NL) (hb : isBlank l.val = true) :
    go (some s) (l :: n :: rest) =
      if !isDecl n.val && !isBlank n.val then go (some (addLine s ⟨l.num, rstrip l.val⟩)) (n :: rest)
      else flush (some s) ++ go none (n :: rest) :=
  go_blank_open s l n rest hb

/-- hence a blank line directly followed by a continuation line never ends the field -/
theorem blank_before_cont_absorbed (s : List Fld × Fld) (l n : NL) (rest : List NL)
    (hb : isBlank l.val = true) (hc : isCont n.val = true) :
    go (some s) (l :: n :: rest) = go (some (addLine s ⟨l.num, rstrip l.val⟩)) (n :: rest) :=
  go_blank_absorb s l n rest hb (cont_not_decl _ hc) (cont_not_blank _ hc)

/-- non-vacuity: a marker blanked before a continuation line; two adjacent markers blanked (splits) -/
example : holdsOn ⟨["License: GPL".toList, " text".toList, " .".toList, " more".toList], [(2, "  ".toList)]⟩
    (model ⟨["License: GPL".toList, " text".toList, " .".toList, " more".toList], [(2, "  ".toList)]⟩) = true := by
  -- as character lists the kernel need not encode the literals to UTF-8 and decode them again
  repeat rw [String.toList_ofList]
  decide +kernel
example : (model ⟨["License: GPL".toList, " .".toList, " .".toList, " more".toList], [(1, []), (2, [])]⟩).blanked.groups.length = 2 := by
  repeat rw [String.toList_ofList]
  decide +kernel

/-! ### blanking markers inside the loop: a simulation -/

/-- the marked line numbers (1-based) -/
abbrev Marked := Nat → Bool

def blankLine (mk : Marked) (l : NL) : NL := if mk l.num then ⟨l.num, []⟩ else l
def mapF (mk : Marked) (f : Fld) : Fld := { f with lines := f.lines.map (blankLine mk) }
def mapSt (mk : Marked) : St → St
  | none => none
  | some (done, cur) => some (done.map (mapF mk), mapF mk cur)
def mapOut (mk : Marked) (ps : List (List Fld)) : List (List Fld) := ps.map fun g => g.map (mapF mk)

theorem mapSt_addLine (mk : Marked) (done : List Fld) (cur : Fld) (l : NL) :
    mapSt mk (some (addLine (done, cur) l)) = some (addLine (done.map (mapF mk), mapF mk cur) (blankLine mk l)) := by
  simp [mapSt, addLine, mapF]

theorem fromLine_unmarked (mk : Marked) (l : NL) (h : mk l.num = false) : mapF mk (fromLine l) = fromLine l := by
  simp [mapF, fromLine, blankLine, h]

theorem mapSt_open (mk : Marked) (st : St) (l : NL) (h : mk l.num = false) :
    mapSt mk (some (closed st, fromLine l)) = some (closed (mapSt mk st), fromLine l) := by
  cases st with
  | none => simp [mapSt, closed, fromLine_unmarked mk l h]
  | some s => simp [mapSt, closed, fromLine_unmarked mk l h]

theorem mapOut_append (mk : Marked) (a b : List (List Fld)) : mapOut mk (a ++ b) = mapOut mk a ++ mapOut mk b := by
  simp [mapOut]

/-- trailing-blank trimming stops at or after such a line, in both runs -/
def Witness (mk : Marked) (l : NL) : Prop := mk l.num = false ∧ isBlank l.val = false

/-- every marked line has a witness later in the list, so `rstripLines` drops the same lines from the list and from its
blanked form (`rstripLines_blank`) -/
def Safe (mk : Marked) : List NL → Prop
  | [] => True
  | l :: ls => (mk l.num = true → ∃ w ∈ ls, Witness mk w) ∧ Safe mk ls

/-- `Safe` but for the last line: the lines of the open field, whose last line may be a marker still waiting for the
continuation line behind it -/
def SafeBL (mk : Marked) : List NL → Prop
  | [] => True
  | [_] => True
  | l :: m :: rest => (mk l.num = true → ∃ w ∈ m :: rest, Witness mk w) ∧ SafeBL mk (m :: rest)

theorem blankLine_witness (mk : Marked) (w : NL) (h : Witness mk w) : blankLine mk w = w := by
  simp [blankLine, h.1]

theorem rstripLines_blank (mk : Marked) (ls : List NL) (h : Safe mk ls) :
    rstripLines (ls.map (blankLine mk)) = (rstripLines ls).map (blankLine mk) := by
  induction ls with
  | nil => rfl
  | cons l ls ih =>
    obtain ⟨hl, hs⟩ := h
    have ih := ih hs
    simp only [List.map_cons, rstripLines, ih]
    cases hr : rstripLines ls with
    | nil =>
      simp only [List.map_nil]
      by_cases hm : mk l.num = true
      · obtain ⟨w, hw, hwit⟩ := hl hm
        exact absurd hr (rstripLines_ne_nil_of_witness ls w hw hwit.2)
      · have hm' : mk l.num = false := by simpa using hm
        simp [blankLine, hm']
        split <;> simp [blankLine, hm']
    | cons r rs => simp

theorem safe_of_safeBL (mk : Marked) (ls : List NL) (h : SafeBL mk ls)
    (hlast : ∀ l ∈ ls.getLast?, mk l.num = false) : Safe mk ls := by
  induction ls with
  | nil => trivial
  | cons l ls ih =>
    cases ls with
    | nil =>
      refine ⟨fun hm => ?_, trivial⟩
      have := hlast l (by simp)
      rw [this] at hm; cases hm
    | cons m rest =>
      obtain ⟨h1, h2⟩ := h
      exact ⟨h1, ih h2 (fun x hx => hlast x (by simpa [List.getLast?_cons_cons] using hx))⟩

theorem safe_snoc_witness (mk : Marked) (ls : List NL) (y : NL) (h : SafeBL mk ls) (hy : Witness mk y) :
    Safe mk (ls ++ [y]) := by
  induction ls with
  | nil => exact ⟨(fun hm => by rw [hy.1] at hm; cases hm), trivial⟩
  | cons l ls ih =>
    cases ls with
    | nil =>
      refine ⟨fun _ => ⟨y, by simp, hy⟩, ?_⟩
      exact ⟨(fun hm => by rw [hy.1] at hm; cases hm), trivial⟩
    | cons m rest =>
      obtain ⟨h1, h2⟩ := h
      refine ⟨fun hm => ?_, ih h2⟩
      obtain ⟨w, hw, hwit⟩ := h1 hm
      exact ⟨w, List.mem_append_left _ hw, hwit⟩

theorem safeBL_append (mk : Marked) (a b : List NL) (h : Safe mk a) (hb : SafeBL mk b) : SafeBL mk (a ++ b) := by
  induction a with
  | nil => exact hb
  | cons l ls ih =>
    have ih := ih h.2
    rw [List.cons_append]
    cases e : ls ++ b with
    | nil => trivial
    | cons m rest =>
      refine ⟨fun hm => ?_, e ▸ ih⟩
      obtain ⟨w, hw, hwit⟩ := h.1 hm
      exact ⟨w, e ▸ List.mem_append_left b hw, hwit⟩

theorem safeBL_snoc (mk : Marked) (ls : List NL) (x : NL) (h : Safe mk ls) : SafeBL mk (ls ++ [x]) :=
  safeBL_append mk ls [x] h trivial

theorem safeBL_of_safe (mk : Marked) (ls : List NL) (h : Safe mk ls) : SafeBL mk ls :=
  List.append_nil ls ▸ safeBL_append mk ls [] h trivial

theorem clean_map (mk : Marked) (g : List Fld) (h : ∀ f ∈ g, Safe mk f.lines) :
    clean (g.map (mapF mk)) = (clean g).map (mapF mk) := by
  induction g with
  | nil => rfl
  | cons f fs ih =>
    simp only [List.map_cons, clean] at ih ⊢
    rw [ih (fun x hx => h x (by simp [hx]))]
    simp only [mapF, rstripLines_blank mk f.lines (h f (by simp))]

theorem flush_map (mk : Marked) (st : St) (h : ∀ f ∈ closed st, Safe mk f.lines) :
    flush (mapSt mk st) = mapOut mk (flush st) := by
  cases st with
  | none => rfl
  | some s =>
    have := clean_map mk (s.1 ++ [s.2]) h
    rw [List.map_append] at this
    exact congrArg (· :: []) this

/-! ### the documents: each line with its optional blank replacement -/

abbrev Item := Str × Option Str

def origOf (items : List Item) : List Str := items.map (·.1)
def blankedOf (items : List Item) : List Str := items.map fun x => x.2.getD x.1

/-- the items are the lines from number `k` on: `mk` marks exactly those with a replacement; a line is empty, a declaration
or a continuation line; a replaced line is the marker, its replacement is blank, and a continuation line that is not
replaced follows; a continuation line does not follow an empty line -/
def ItemsOK (mk : Marked) : Nat → List Item → Prop
  | _, [] => True
  | k, x :: rest =>
    (mk k = x.2.isSome) ∧
    (x.1 = [] ∨ isDecl x.1 = true ∨ isCont x.1 = true) ∧
    (∀ r, x.2 = some r → x.1 = marker ∧ isBlank r = true ∧
        ∃ y rest', rest = y :: rest' ∧ isCont y.1 = true ∧ y.2 = none) ∧
    (∀ y ∈ rest.head?, isCont y.1 = true → x.1 ≠ []) ∧
    ItemsOK mk (k + 1) rest

theorem marker_cont : isCont marker = true := by decide
theorem marker_not_blank : isBlank marker = false := by decide
theorem rstrip_marker : rstrip marker = marker := by decide

theorem item_not_cont (mk : Marked) (k : Nat) (y : Item) (rest : List Item) (hok : ItemsOK mk k (y :: rest))
    (hc : isCont y.1 = false) : y.2 = none ∧ (isDecl y.1 = true ∨ isBlank y.1 = true) := by
  obtain ⟨_, hkind, hmark, _, _⟩ := hok
  constructor
  · cases h2 : y.2 with
    | none => rfl
    | some r => rw [(hmark r h2).1, marker_cont] at hc; cases hc
  · rcases hkind with h | h | h
    · exact .inr (h ▸ rfl)
    · exact .inl h
    · rw [hc] at h; cases h

/-- after an empty line that no continuation line follows, the paragraph ends in both runs -/
theorem head_after_empty (mk : Marked) (k : Nat) (rest : List Item) (hok : ItemsOK mk k rest)
    (hnc : ∀ y ∈ rest.head?, isCont y.1 = false) :
    (∀ n ∈ (numberFrom k (blankedOf rest)).head?, isDecl n.val = true ∨ isBlank n.val = true) ∧
    (∀ n ∈ (numberFrom k (origOf rest)).head?, isDecl n.val = true ∨ isBlank n.val = true) := by
  cases rest with
  | nil => exact ⟨fun _ h => (nomatch h), fun _ h => (nomatch h)⟩
  | cons y rest' =>
    obtain ⟨h2, h⟩ := item_not_cont mk k y rest' hok (hnc y rfl)
    simp only [blankedOf, origOf, List.map_cons, numberFrom, h2, Option.getD_none, List.head?_cons, Option.mem_def,
      Option.some.injEq]
    exact ⟨fun n hn => hn ▸ h, fun n hn => hn ▸ h⟩

/-! ### the invariant of the loop, one line at a time -/

def lastMarked (mk : Marked) (ls : List NL) : Prop := ∃ l ∈ ls.getLast?, mk l.num = true

/-- the closed fields lose the same trailing lines in both runs; so does the open field, except that it may end in a
marked line as long as an unmarked continuation line comes next -/
def StInv (mk : Marked) : St → List Item → Prop
  | none, items => ∀ y ∈ items.head?, isCont y.1 = false
  | some (done, cur), items =>
    (∀ f ∈ done, Safe mk f.lines) ∧ SafeBL mk cur.lines ∧
    (lastMarked mk cur.lines → ∃ y rest, items = y :: rest ∧ isCont y.1 = true ∧ y.2 = none)

/-- when the next line does not continue the open field as it stands, every field of the state can be closed -/
theorem stInv_safe (mk : Marked) (done : List Fld) (cur : Fld) (items : List Item)
    (hinv : StInv mk (some (done, cur)) items)
    (hhead : ∀ y ∈ items.head?, isCont y.1 = false ∨ y.2.isSome = true) :
    ∀ f ∈ done ++ [cur], Safe mk f.lines := by
  obtain ⟨h1, h2, h3⟩ := hinv
  refine Proofs.Assoc.forall_mem_snoc.mpr ⟨h1, safe_of_safeBL mk _ h2 fun l hl => ?_⟩
  -- a marked last line would have an unmarked continuation line next
  cases hm : mk l.num with
  | false => rfl
  | true =>
    obtain ⟨y, rest, e, hc, hn⟩ := h3 ⟨l, hl, hm⟩
    rcases hhead y (by rw [e]; rfl) with h' | h'
    · rw [hc] at h'; cases h'
    · rw [hn] at h'; cases h'

theorem closed_safe (mk : Marked) (st : St) (items : List Item) (hinv : StInv mk st items)
    (hhead : ∀ y ∈ items.head?, isCont y.1 = false ∨ y.2.isSome = true) : ∀ f ∈ closed st, Safe mk f.lines := by
  cases st with
  | none => exact fun _ h => nomatch h
  | some s => exact stInv_safe mk s.1 s.2 items hinv hhead

theorem stInv_cont {mk : Marked} {st : St} {x : Item} {rest : List Item} (hinv : StInv mk st (x :: rest))
    (hc : isCont x.1 = true) : ∃ s, st = some s := by
  cases st with
  | none => have := hinv x rfl; rw [hc] at this; cases this
  | some s => exact ⟨s, rfl⟩

theorem not_lastMarked_snoc (mk : Marked) (ls : List NL) (l : NL) (h : mk l.num = false) :
    ¬ lastMarked mk (ls ++ [l]) := by
  rintro ⟨l', hl', hm⟩
  rw [List.getLast?_concat] at hl'
  obtain rfl := Option.mem_some.mp hl'
  rw [h] at hm; cases hm

/-- a marked line joins the open field, whatever the state holds: a continuation line follows -/
theorem stInv_addMarked (mk : Marked) (k : Nat) (x : Item) (rest : List Item) (s : List Fld × Fld) (v : Str)
    (hok : ItemsOK mk k (x :: rest)) (hx : x.2.isSome = true) (hinv : StInv mk (some s) (x :: rest)) :
    StInv mk (some (addLine s ⟨k, v⟩)) rest := by
  obtain ⟨done, cur⟩ := s
  obtain ⟨r, hr⟩ := Option.isSome_iff_exists.mp hx
  have hsafe := stInv_safe mk done cur _ hinv fun z hz => Option.mem_some.mp hz ▸ Or.inr hx
  exact ⟨hinv.1, safeBL_snoc mk _ _ (hsafe cur (by simp)), fun _ => (hok.2.2.1 r hr).2.2⟩

theorem stInv_addWitness (mk : Marked) (items rest : List Item) (s : List Fld × Fld) (l : NL) (hl : Witness mk l)
    (hinv : StInv mk (some s) items) : StInv mk (some (addLine s l)) rest := by
  obtain ⟨done, cur⟩ := s
  exact ⟨hinv.1, safeBL_of_safe mk _ (safe_snoc_witness mk cur.lines l hinv.2.1 hl),
    fun h => absurd h (not_lastMarked_snoc mk cur.lines l hl.1)⟩

theorem stInv_open (mk : Marked) (st : St) (l : NL) (rest : List Item) (hm : mk l.num = false)
    (hsafe : ∀ f ∈ closed st, Safe mk f.lines) : StInv mk (some (closed st, fromLine l)) rest :=
  ⟨hsafe, trivial, fun h => absurd h (not_lastMarked_snoc mk [] _ hm)⟩

/-- one step of the loop on the original document at line `l`: it emits `pre` and goes on in the third state. The line
joins the open field (a marked one is a marker), or it closes the paragraph, or it opens a field; the fields of the state
are closed only when all their marked lines have a witness -/
inductive Step (mk : Marked) (l : NL) : St → List (List Fld) → St → Prop
  | join (s : List Fld × Fld) (h : mk l.num = true → rstrip l.val = marker) :
      Step mk l (some s) [] (some (addLine s ⟨l.num, rstrip l.val⟩))
  | close (st : St) (hs : ∀ f ∈ closed st, Safe mk f.lines) : Step mk l st (flush st) none
  | decl (st : St) (hs : ∀ f ∈ closed st, Safe mk f.lines) (hm : mk l.num = false) :
      Step mk l st [] (some (closed st, fromLine l))

/-- the two runs take the same step at every line, and the invariant holds after it -/
theorem step (mk : Marked) (k : Nat) (x : Item) (rest : List Item) (st : St) (hok : ItemsOK mk k (x :: rest))
    (hinv : StInv mk st (x :: rest)) :
    ∃ pre st', Step mk ⟨k, x.1⟩ st pre st' ∧ StInv mk st' rest ∧
      go st (numberFrom k (origOf (x :: rest))) = pre ++ go st' (numberFrom (k + 1) (origOf rest)) ∧
      go (mapSt mk st) (numberFrom k (blankedOf (x :: rest))) =
        mapOut mk pre ++ go (mapSt mk st') (numberFrom (k + 1) (blankedOf rest)) := by
  obtain ⟨xo, xr⟩ := x
  obtain ⟨hmk, hkind, hmark, hnext, hrest⟩ := id hok  -- `id`: `hok` itself stays, for `stInv_addMarked`
  cases xr with
  | some r =>
    -- a marker in the original, a blank line in the blanked document
    obtain ⟨rfl, hrb, y, rest', rfl, hyc, hyn⟩ := hmark r rfl
    obtain ⟨s, rfl⟩ := stInv_cont hinv marker_cont
    have hl : blankLine mk ⟨k, rstrip marker⟩ = ⟨k, rstrip r⟩ := by
      rw [(rstrip_eq_nil_iff r).mpr hrb]; exact if_pos hmk
    have hhead : numberFrom (k + 1) (blankedOf (y :: rest')) = ⟨k + 1, y.1⟩ :: numberFrom (k + 1 + 1) (blankedOf rest') := by
      simp only [blankedOf, List.map_cons, hyn, Option.getD_none, numberFrom]
    refine ⟨[], _, .join s fun _ => rstrip_marker, stInv_addMarked mk k _ _ s _ hok rfl hinv,
      go_cont_step s ⟨k, marker⟩ _ marker_not_blank marker_cont, ?_⟩
    show go _ (⟨k, r⟩ :: numberFrom (k + 1) (blankedOf (y :: rest'))) = _
    rw [mapSt_addLine, hl, hhead]
    exact go_blank_absorb _ ⟨k, r⟩ ⟨k + 1, y.1⟩ _ hrb (cont_not_decl _ hyc) (cont_not_blank _ hyc)
  | none =>
    have hmk' : mk k = false := hmk
    have hsafe := fun hc => closed_safe mk st _ hinv fun z hz => Option.mem_some.mp hz ▸ Or.inl hc
    rcases hkind with rfl | hk | hk
    · -- an empty line ends the paragraph in both runs
      have hnc : StInv mk none rest := fun y hy => Bool.eq_false_iff.mpr fun hc => hnext y hy hc rfl
      obtain ⟨hB, hA⟩ := head_after_empty mk (k + 1) rest hrest hnc
      exact ⟨_, none, .close st (hsafe rfl), hnc, go_blank_flush st _ _ rfl hA,
        flush_map mk st (hsafe rfl) ▸ go_blank_flush _ _ _ rfl hB⟩
    · -- a declaration line opens a field
      have hsafe := hsafe (decl_not_cont xo hk)
      exact ⟨[], _, .decl st hsafe hmk', stInv_open mk st ⟨k, xo⟩ rest hmk' hsafe, go_decl_step st ⟨k, xo⟩ _ hk,
        mapSt_open mk st ⟨k, xo⟩ hmk' ▸ go_decl_step _ ⟨k, xo⟩ _ hk⟩
    · -- an unmarked continuation line joins the open field
      obtain ⟨s, rfl⟩ := stInv_cont hinv hk
      have hnb : isBlank xo = false := cont_not_blank xo hk
      have hw : Witness mk ⟨k, rstrip xo⟩ := ⟨hmk', isBlank_rstrip hnb⟩
      refine ⟨[], _, .join s fun hm => absurd (hmk'.symm.trans hm) Bool.false_ne_true,
        stInv_addWitness mk _ rest s _ hw hinv, go_cont_step s ⟨k, xo⟩ _ hnb hk, ?_⟩
      rw [mapSt_addLine, blankLine_witness mk _ hw]
      exact go_cont_step _ ⟨k, xo⟩ _ hnb hk

/-- **the simulation**: running the loop on the blanked document gives the run on the original with
the marked lines blanked -/
theorem sim (mk : Marked) (items : List Item) (k : Nat) (st : St) (hok : ItemsOK mk k items)
    (hinv : StInv mk st items) :
    go (mapSt mk st) (numberFrom k (blankedOf items)) = mapOut mk (go st (numberFrom k (origOf items))) := by
  induction items generalizing k st with
  | nil =>
    rw [blankedOf, origOf, List.map_nil, List.map_nil, numberFrom, go_nil, go_nil]
    exact flush_map mk st (closed_safe mk st [] hinv fun _ h => nomatch h)
  | cons x rest ih =>
    obtain ⟨pre, st', _, hinv', hA, hB⟩ := step mk k x rest st hok hinv
    rw [hA, hB, mapOut_append, ih (k + 1) st' hok.2.2.2.2 hinv']

/-! ### from the property's input to the simulation -/

def mkOf (i : Input) : Marked := fun n => (i.marks.lookup (n - 1)).isSome && decide (n > 0)

def itemsFrom (i : Input) : Nat → List Str → List Item
  | _, [] => []
  | j, l :: ls => (l, i.marks.lookup j) :: itemsFrom i (j + 1) ls

theorem origOf_itemsFrom (i : Input) (j : Nat) (ls : List Str) : origOf (itemsFrom i j ls) = ls := by
  induction ls generalizing j with
  | nil => rfl
  | cons l ls ih => simp only [itemsFrom, origOf, List.map_cons] at ih ⊢; rw [ih]

theorem drop_cons_facts (l : List Str) (j : Nat) (x : Str) (xs : List Str) (h : l.drop j = x :: xs) :
    j < l.length ∧ l.getD j [] = x ∧ l.drop (j + 1) = xs ∧ x ∈ l := by
  have hlt : j < l.length := by
    apply Nat.lt_of_not_le
    intro hge
    have : l.drop j = [] := List.drop_eq_nil_of_le hge
    rw [this] at h; cases h
  have hget : l[j]? = some x := by
    have := congrArg List.head? h
    simpa [List.head?_drop] using this
  refine ⟨hlt, by simp [List.getD, hget], ?_, List.mem_of_getElem? hget⟩
  have := congrArg List.tail h
  simpa [List.tail_drop] using this

theorem noTerminator_NoT {s : Str} (h : noTerminator s = true) : NoT s := by
  simp only [noTerminator, Bool.and_eq_true, Bool.not_eq_true'] at h
  exact ⟨by simpa using h.1, by simpa using h.2⟩

theorem wf_clauses (i : Input) (h : wf i = true) :
    (∀ l ∈ i.lines, noTerminator l = true ∧ (l = [] ∨ isDecl l = true ∨ isCont l = true)) ∧
    (∀ j < i.lines.length, isCont (i.lines.getD j []) = true → 0 < j ∧ i.lines.getD (j - 1) [] ≠ []) ∧
    ∀ j r, i.marks.lookup j = some r → i.lines.getD j [] = marker ∧ isBlank r = true ∧ noTerminator r = true ∧
      j + 1 < i.lines.length ∧ isCont (i.lines.getD (j + 1) []) = true ∧ i.marks.lookup (j + 1) = none := by
  simp only [wf, wfDoc, wfMarks, Bool.and_eq_true, Bool.or_eq_true, Bool.not_eq_true', List.all_eq_true, List.mem_range,
    beq_iff_eq, decide_eq_true_eq, Option.isNone_iff_eq_none, List.isEmpty_iff, List.isEmpty_eq_false_iff, and_assoc,
    or_assoc] at h
  obtain ⟨hl, hp, hm⟩ := h
  refine ⟨hl, fun j hj hc => ?_, fun j r hr => ?_⟩
  · rcases hp j hj with h' | h'
    · rw [hc] at h'; cases h'
    · exact h'
  · obtain ⟨h1, h2, h3, h4, h5, h6, _⟩ := hm (j, r) (Proofs.Assoc.lookup_mem _ _ _ hr)
    exact ⟨h1, h2, h3, h4, h5, h6⟩

theorem itemsOK_of_wf (i : Input) (h : wf i = true) (j : Nat) (ls : List Str) (hd : i.lines.drop j = ls) :
    ItemsOK (mkOf i) (j + 1) (itemsFrom i j ls) := by
  obtain ⟨hlines, hprev, hmarks⟩ := wf_clauses i h
  induction ls generalizing j with
  | nil => trivial
  | cons l ls ih =>
    obtain ⟨hjlt, hget, hd', hlmem⟩ := drop_cons_facts i.lines j l ls hd
    refine ⟨by simp [mkOf], (hlines l hlmem).2, fun r hr => ?_, fun y hy hc => ?_, ih (j + 1) hd'⟩
    · obtain ⟨h1, h2, _, h4, h5, h6⟩ := hmarks j r hr
      refine ⟨hget ▸ h1, h2, ?_⟩
      cases ls with
      | nil =>
        have := congrArg List.length hd'
        simp at this
        omega
      | cons y rest' =>
        obtain ⟨_, hgy, _, _⟩ := drop_cons_facts i.lines (j + 1) y rest' hd'
        exact ⟨(y, i.marks.lookup (j + 1)), itemsFrom i (j + 1 + 1) rest', rfl, hgy ▸ h5, h6⟩
    · cases ls with
      | nil => cases hy
      | cons y' rest' =>
        cases hy
        obtain ⟨hj1, hgy, _, _⟩ := drop_cons_facts i.lines (j + 1) y' rest' hd'
        have := (hprev (j + 1) hj1 (hgy ▸ hc)).2
        rwa [Nat.add_sub_cancel, hget] at this

theorem blankedOf_itemsFrom (i : Input) (j : Nat) (ls : List Str) (hd : i.lines.drop j = ls) :
    blankedOf (itemsFrom i j ls) =
      (List.range' j ls.length).map fun j => match i.marks.lookup j with | some r => r | none => i.lines.getD j [] := by
  induction ls generalizing j with
  | nil => rfl
  | cons l ls ih =>
    obtain ⟨_, hget, hd', _⟩ := drop_cons_facts i.lines j l ls hd
    simp only [itemsFrom, blankedOf, List.map_cons, List.length_cons, List.range'_succ] at ih ⊢
    rw [ih (j + 1) hd', hget]
    cases i.marks.lookup j <;> rfl

theorem blankedLines_eq (i : Input) : blankedLines i = blankedOf (itemsFrom i 0 i.lines) := by
  rw [blankedOf_itemsFrom i 0 i.lines rfl]
  unfold blankedLines
  rw [List.range_eq_range']
  rfl

theorem wf_noT_stInv (i : Input) (h : wf i = true) :
    (∀ l ∈ i.lines, NoT l) ∧ (∀ l ∈ blankedLines i, NoT l) ∧ StInv (mkOf i) none (itemsFrom i 0 i.lines) := by
  obtain ⟨hlines, hprev, hmarks⟩ := wf_clauses i h
  have hA : ∀ l ∈ i.lines, NoT l := fun l hl => noTerminator_NoT (hlines l hl).1
  refine ⟨hA, fun l hl => ?_, fun y hy => ?_⟩
  · simp only [blankedLines, List.mem_map, List.mem_range] at hl
    obtain ⟨j, hj, rfl⟩ := hl
    cases hlk : i.marks.lookup j with
    | none => exact hA _ (List.mem_of_getElem? (by simp [List.getD, List.getElem?_eq_getElem hj] : i.lines[j]? = some _))
    | some r => exact noTerminator_NoT (hmarks j r hlk).2.2.1
  · cases hl : i.lines with
    | nil => rw [hl] at hy; cases hy
    | cons l ls =>
      rw [hl] at hy; cases hy
      cases hc : isCont l with
      | false => rfl
      | true => exact absurd (hprev 0 (by simp [hl]) (by simpa [hl] using hc)).1 (Nat.lt_irrefl 0)

theorem parse_render (ls : List Str) (h : ∀ l ∈ ls, NoT l) : parse (render ls) = go none (numberFrom 1 ls) := by
  unfold parse linesFromText render
  have := splitLinesAscii_seps ls [] h
  simp only [List.append_nil] at this
  rw [this]
  simp [splitLinesAscii, splitLinesAsciiAux]

theorem model_render (ls : List Str) (h : ∀ l ∈ ls, NoT l) :
    Props.C05.model (render ls) = Props.C05.obsOf (go none (numberFrom 1 ls)) :=
  congrArg Props.C05.obsOf (parse_render ls h)

theorem obsOf_mapOut (i : Input) (ps : List (List Fld)) :
    Props.C05.obsOf (mapOut (mkOf i) ps) = expectedGroups i (Props.C05.obsOf ps) := by
  simp only [Props.C05.obsOf, mapOut, expectedGroups, List.map_map]
  apply List.map_congr_left
  intro g _
  simp only [Function.comp, List.map_map]
  apply List.map_congr_left
  intro f _
  simp only [Function.comp, mapF, List.map_map, Prod.mk.injEq, true_and]
  apply List.map_congr_left
  intro l _
  simp only [Function.comp, blankLine, mkOf]
  by_cases hc : ((List.lookup (l.num - 1) i.marks).isSome && decide (l.num > 0)) = true
  · simp [hc]
  · simp [hc]

/-- **C12, line-tracking parser** — in any well-formed document, replacing ` .` markers that are followed by a continuation
line by empty or white-space-only lines changes only the text of those lines in what the line-tracking parser reports: same
paragraphs, same fields, same line numbers, same other lines. -/
theorem groups_sound (i : Input) (h : wf i = true) :
    (model i).blanked.groups = expectedGroups i (model i).orig.groups := by
  obtain ⟨hA, hB, hfirst⟩ := wf_noT_stInv i h
  have hsim := sim (mkOf i) (itemsFrom i 0 i.lines) 1 none (itemsOK_of_wf i h 0 i.lines rfl) hfirst
  rw [origOf_itemsFrom, mapSt] at hsim
  simp only [model, side]
  rw [model_render _ hA, model_render _ hB, blankedLines_eq, hsim, obsOf_mapOut]

end Props.C12
