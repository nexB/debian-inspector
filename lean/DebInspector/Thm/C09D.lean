/-
C09 — the whole property on the model: a well-formed DEP-5 document is a deb822 document of the grammar of C06, so the loop
theorem `Props.C06.go_doc` gives field groups that spell its paragraphs (`parse_spells`); then `Props.C09G.sound_from_groups`.
The lemmas named `_eq6` say that a notion of the DEP-5 grammar is its namesake of the grammar of C06 on the translated document.
-/
import DebInspector.Thm.C06
import DebInspector.Thm.C09G

namespace Props.C09D
open Py Model.Deb822 Props.Dep5 Props.C09G

/-- a field of the DEP-5 grammar as a field of the deb822 grammar of C06 -/
def toField (f : Dep5.Field) : Props.C06.Field :=
  ⟨f.label, f.first, f.conts.map rawLine, if f.first.isEmpty then [] else [' ']⟩

def toParas : List Dep5.Para → List Nat → List Props.C06.Para
  | [], _ => []
  | p :: ps, seps => ⟨p.map toField, List.replicate (seps.headD 1 - 1) []⟩ :: toParas ps seps.tail

theorem joinNl_eq6 (ls : List Str) : Dep5.joinNl ls = Props.C06.joinNl ls :=
  (Props.C09.joinNl5_eq_join ls).trans (eq_join rfl (fun _ => rfl) (fun _ _ _ => rfl) ls).symm

theorem fieldLines_eq6 (f : Dep5.Field) : Dep5.fieldLines f = Props.C06.fieldLines (toField f) := by
  unfold Dep5.fieldLines Props.C06.fieldLines toField
  by_cases h : f.first.isEmpty = true
  · have : f.first = [] := List.isEmpty_iff.mp h
    simp [this]
  · simp [h]

theorem renderPara_eq6 (p : Dep5.Para) (sep : List Str) : Dep5.renderPara p = Props.C06.renderPara ⟨p.map toField, sep⟩ := by
  unfold Dep5.renderPara Props.C06.renderPara
  rw [joinNl_eq6, List.flatMap_map]
  exact congrArg _ (Proofs.Words.flatMap_congr fun f _ => fieldLines_eq6 f)

theorem render_eq6 (paras : List Dep5.Para) (seps : List Nat) (hs : ∀ n ∈ seps, n ≥ 1) (hl : seps.length = paras.length) :
    Dep5.renderAux paras seps = Props.C06.render (toParas paras seps) true := by
  induction paras generalizing seps with
  | nil => rfl
  | cons p rest ih =>
    cases rest with
    | nil =>
      simp only [Dep5.renderAux, toParas, Props.C06.render, if_true]
      rw [renderPara_eq6]
    | cons q rest' =>
      cases seps with
      | nil => simp at hl
      | cons n ns =>
        have hn : n ≥ 1 := hs n (by simp)
        have := ih ns (fun m hm => hs m (by simp [hm])) (by simpa using hl)
        simp only [Dep5.renderAux, toParas, List.headD_cons, List.tail_cons, Props.C06.render] at this ⊢
        rw [this, renderPara_eq6 p (List.replicate (n - 1) [])]
        have hrep : (List.replicate (n - 1) ([] : Str)).flatMap (fun l => l ++ ['\n']) = List.replicate (n - 1) '\n' := by
          generalize n - 1 = k
          induction k with
          | zero => rfl
          | succ k ihk => simp [List.replicate_succ, ihk]
        rw [hrep]
        have : List.replicate n '\n' = '\n' :: List.replicate (n - 1) '\n' := by
          cases n with
          | zero => omega
          | succ k => simp [List.replicate_succ]
        rw [this]

/-! ### the facts the line-tracking loop needs, from the DEP-5 grammar -/

theorem conts_ok (f : Dep5.Field) (h : fieldOk f = true) : ∀ l ∈ f.conts, tlineOk l = true ∨ itemOk l = true := by
  intro l hl
  rcases Props.C09.kind_cases f h with hk | hk | hk | hk | hk | hk | hk <;> have hf := Props.C09.fieldOk_kind f h hk
  · rw [hf.2] at hl; cases hl
  · exact Or.inr (hf.2 l hl)
  · exact Or.inr (hf.2 l hl)
  · have := hf.2
    simp only [blockOk, Bool.and_eq_true, List.all_eq_true] at this
    exact Or.inl (this.1.1 l hl)
  · exact Or.inl (Props.C09.formatted_conts_ok f hk h l hl)
  · exact Or.inl (hf.2 l hl).2
  · exact Or.inl (hf.2 l hl).2

theorem plain_lineOk (s : Str) (hp : plain s = true) (hl : lastP isSpace s = false) : Props.C06.lineOk s = true := by
  have hb : ∀ c ∈ s, isBoundary c = false := fun c hc => by
    have := List.all_eq_true.mp hp c hc
    simp only [Bool.and_eq_true, Bool.not_eq_true'] at this
    exact this.1
  have hnl : s.contains '\n' = false := by
    cases hc : s.contains '\n' with
    | false => rfl
    | true => have := hb _ (List.contains_iff_mem.mp hc); revert this; decide
  have hcr : s.contains '\r' = false := by
    cases hc : s.contains '\r' with
    | false => rfl
    | true => have := hb _ (List.contains_iff_mem.mp hc); revert this; decide
  simp only [Props.C06.lineOk, hnl, hcr, hl, Bool.not_false, Bool.and_self]

theorem sp_line_ok (s : Str) (hne : s ≠ []) (hpl : plain s = true) (hlast : lastP isSpace s = false) :
    Props.C06.lineOk (' ' :: s) = true ∧ isCont (' ' :: s) = true := by
  constructor
  · exact plain_lineOk _ (Props.C09.plain_sp hpl) (by rw [lastP_cons_ne_nil _ _ _ hne]; exact hlast)
  · simp only [isCont, headP, Bool.and_eq_true, Bool.not_eq_true', decide_true, Bool.true_or, true_and]
    exact isBlank_of_last (by rw [lastP_cons_ne_nil _ _ _ hne]; exact hlast) (List.cons_ne_nil _ _)

theorem rawLine_ok (l : TLine) (h : tlineOk l = true) :
    Props.C06.lineOk (rawLine l) = true ∧ isCont (rawLine l) = true := by
  rcases Props.C09.tline_cases l h with ⟨hk, hne, hpl, htr, _⟩ | ⟨hk, _⟩ | ⟨hk, hne, hpl, hlast⟩
  · simpa only [rawLine, hk] using sp_line_ok l.content hne hpl ((Props.C09.trimmed_iff _).mp htr).2
  · simp only [rawLine, hk]
    exact ⟨by decide, by decide⟩
  · simpa only [rawLine, hk] using
      sp_line_ok (' ' :: l.content) (by simp) (Props.C09.plain_sp hpl) (by rw [lastP_cons_ne_nil _ _ _ hne]; exact hlast)

theorem item_rawLine_ok (l : TLine) (h : itemOk l = true) :
    Props.C06.lineOk (rawLine l) = true ∧ isCont (rawLine l) = true := by
  have hf := Props.C09.item_facts l h
  have hd := content_decomp l.content
  have hne : l.content ≠ [] := by
    intro e
    have : itemText l = [] := by unfold itemText; rw [e]; rfl
    exact hf.ss.ne this
  have hlast : lastP isSpace l.content = false := by
    rw [hd]
    exact (lastP_append_ne _ _ _ hf.ss.ne).trans ((Props.C09.trimmed_iff _).mp hf.ss.tr).2
  rw [hf.raw]
  exact sp_line_ok l.content hne hf.pl hlast

theorem toField_ok (f : Dep5.Field) (h : fieldOk f = true) : Props.C06.fieldOkAny (toField f) = true := by
  have hconts := conts_ok f h
  simp only [fieldOk, Bool.and_eq_true] at h
  obtain ⟨⟨⟨hlab, hpl⟩, htr⟩, _⟩ := h
  simp only [labelOk, Bool.and_eq_true] at hlab
  simp only [trimmed, Bool.and_eq_true, Bool.not_eq_true'] at htr
  simp only [Props.C06.fieldOkAny, toField, Bool.and_eq_true, Bool.not_eq_true', List.all_eq_true, Bool.or_eq_true]
  refine ⟨⟨⟨⟨⟨?_, plain_lineOk _ hpl htr.2⟩, htr.1⟩, ?_⟩, ?_⟩, ?_⟩
  · simp only [Props.C06.narrowName, Bool.and_eq_true]
    exact hlab.1
  · intro c hc
    obtain ⟨l, hl, rfl⟩ := List.mem_map.mp hc
    rcases hconts l hl with h1 | h1
    · exact rawLine_ok l h1
    · exact item_rawLine_ok l h1
  · intro c hc
    by_cases he : f.first.isEmpty = true
    · simp [he] at hc
    · simp [he] at hc; left; simp [hc]
  · by_cases he : f.first.isEmpty = true
    · right; simp [he]
    · left; simpa using he

/-! ### the parse of the text spells the document -/

theorem pname_toField (f : Dep5.Field) : Props.C06.pname (toField f) = normLabel f.label := rfl

theorem toParas_facts (paras : List Dep5.Para) (seps : List Nat) (hp : ∀ p ∈ paras, paraOk p = true) :
    ∀ q ∈ toParas paras seps, Props.C06.ParaFacts q ∧
      (Props.C06.paraLines q ≠ [] ∧ (∀ l ∈ Props.C06.paraLines q, Proofs.LinesAscii.NoT l ∧ l ≠ []) ∧
        ∀ l ∈ q.sep, Proofs.LinesAscii.NoT l) := by
  induction paras generalizing seps with
  | nil => intro q hq; cases hq
  | cons p rest ih =>
    intro q hq
    simp only [toParas, List.mem_cons] at hq
    rcases hq with rfl | hq
    · have hpo := hp p (by simp)
      have hfields := paraOk_fields hpo
      have hne : p ≠ [] := by
        simp only [paraOk, Bool.and_eq_true, Bool.not_eq_true', List.isEmpty_eq_false_iff] at hpo
        exact hpo.1.1.1
      refine ⟨⟨by simpa using hne, ?_, fun l hl => by rw [List.eq_of_mem_replicate hl]; rfl⟩, ?_, ?_,
        fun l hl => by rw [List.eq_of_mem_replicate hl]; exact ⟨nofun, nofun⟩⟩
      · intro f hf
        obtain ⟨f0, hf0, rfl⟩ := List.mem_map.mp hf
        exact Props.C06.fieldFactsAny _ (toField_ok f0 (hfields f0 hf0))
      · obtain ⟨f, fs, rfl⟩ := List.exists_cons_of_ne_nil hne
        exact List.cons_ne_nil _ _
      · intro l hl
        simp only [Props.C06.paraLines, List.mem_flatMap, List.mem_map] at hl
        obtain ⟨f, ⟨f0, hf0, rfl⟩, hlf⟩ := hl
        exact Props.C06.fieldLines_factsAny _ (toField_ok f0 (hfields f0 hf0)) l hlf
    · exact ih seps.tail (fun p' hp' => hp p' (by simp [hp'])) q hq

/-- pointwise: what `go_doc` says of one field is that the tracked field spells the document's field -/
theorem spells_of_exp (f : Dep5.Field) (hf : fieldOk f = true) (x : Fld)
    (h : Props.C06.obsFld x = Props.C06.expField (toField f)) : SpellsF f x := by
  unfold Props.C06.obsFld Props.C06.expField at h
  have hne := rawVal_ne f hf
  -- the value is not empty: the first line or a continuation line is there
  have hcond : ((toField f).value.isEmpty && (toField f).conts.isEmpty) = false := by
    cases h1 : f.first.isEmpty with
    | false => simp [toField, h1]
    | true =>
      cases h2 : f.conts with
      | nil =>
        have : f.first = [] := List.isEmpty_iff.mp h1
        unfold rawVal at hne
        rw [this, h2] at hne
        simp [Model.Debcon.joinNl] at hne
      | cons l ls => simp [toField, h2]
  rw [hcond] at h
  simp only [Bool.false_eq_true, if_false, Prod.mk.injEq] at h
  exact ⟨by rw [h.1, pname_toField], by rw [h.2]; rfl⟩

theorem toParas_fields {γ} (F : List Props.C06.Field → γ) (paras : List Dep5.Para) (seps : List Nat) :
    (toParas paras seps).map (fun q => F q.fields) = paras.map fun p => F (p.map toField) := by
  induction paras generalizing seps with
  | nil => rfl
  | cons p ps ih => rw [toParas, List.map_cons, ih, List.map_cons]

theorem all2_of_map_eq (paras : List Dep5.Para) (seps : List Nat) (hp : ∀ p ∈ paras, paraOk p = true)
    (gs : List (List Fld))
    (h : gs.map (fun g => g.map Props.C06.obsFld) = (toParas paras seps).map fun q => q.fields.map Props.C06.expField) :
    All2 (fun p g => All2 SpellsF p g) paras gs := by
  refine (All2.of_map_eq _ _ (h.trans (toParas_fields _ paras seps))).imp_mem fun p hpm g hg => ?_
  rw [List.map_map] at hg
  exact (All2.of_map_eq _ _ hg).imp_mem fun f hf x hx => spells_of_exp f (paraOk_fields (hp p hpm) f hf) x hx

/-- **the line-tracking parser on a well-formed DEP-5 document** returns field groups that spell its paragraphs -/
theorem parse_spells (d : Doc) (hw : wf d = true) : All2 (fun p g => All2 SpellsF p g) d.paras (parse d.text) := by
  simp only [wf, Bool.and_eq_true, List.all_eq_true, beq_iff_eq, decide_eq_true_eq] at hw
  obtain ⟨⟨⟨⟨⟨⟨_, hparas⟩, _⟩, _⟩, hlen⟩, hseps⟩, htext⟩ := hw
  have hfacts := toParas_facts d.paras d.seps hparas
  have hrender : d.text = Props.C06.render (toParas d.paras d.seps) true := by
    rw [htext]; exact render_eq6 d.paras d.seps hseps hlen
  have hlines := Props.C06.lines_render (toParas d.paras d.seps) true (fun q hq => (hfacts q hq).2)
  have hgo := Props.C06.go_doc (toParas d.paras d.seps) (fun q hq => (hfacts q hq).1) 1
  rw [← hlines, ← hrender] at hgo
  apply all2_of_map_eq d.paras d.seps hparas
  exact hgo

/-- **C09** — for every well-formed machine-readable copyright document the model of the whole pipeline (text → tracked
field groups → typed paragraphs → recovery rewrites → validity) satisfies the property: one paragraph per document
paragraph, of its class, with exactly its typed fields and extra data; valid exactly when a files paragraph is there -/
theorem sound (d : Doc) : Props.C09.holdsOn d (Props.C09.model d) = true := by
  cases hw : wf d with
  | false => unfold Props.C09.holdsOn; rw [hw]; rfl
  | true =>
    have := sound_from_groups d (parse d.text) (parse_spells d hw)
    unfold Props.C09.model Model.Copyright.fromText
    unfold obsOf at this
    exact this

end Props.C09D
