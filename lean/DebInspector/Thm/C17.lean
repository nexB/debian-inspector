/-
C17 — property theorems: latest-version selection is a maximum; file names round-trip (`roundtrip`).
-/
import DebInspector.Props.C17
import DebInspector.Proofs.VersionOrder
import DebInspector.Proofs.AssocList
import DebInspector.Proofs.SplitJoin
import DebInspector.Proofs.VersionPrint

namespace Props.C17
open Py Spec Spec.VerOrder PadLex Model.Version Model.Package Proofs.VersionOrder

/-! ### insertion sort with a partial, possibly inconsistent comparison -/

theorem insertA_perm (x : Archive) : ∀ (l s : List Archive), insertA x l = some s → s.Perm (x :: l)
  | [], s, h => by cases h; exact List.Perm.refl _
  | y :: ys, s, h => by
    unfold insertA at h
    split at h
    · cases h
    · cases h; exact List.Perm.refl _
    · simp only [Option.map_eq_some_iff] at h
      obtain ⟨s', hs', rfl⟩ := h
      exact (List.Perm.cons y (insertA_perm x ys s' hs')).trans (List.Perm.swap x y ys)

theorem sortA_perm (l s : List Archive) (h : sortA l = some s) : s.Perm l :=
  Proofs.Assoc.foldl_insert_perm (fun acc x => insertA x acc) (fun acc x => insertA_perm x acc) l [] s h

theorem sortA_pairwise {P : Archive → Prop} {R : Archive → Archive → Prop}
    (hstep : ∀ x, P x → ∀ l s, (∀ a ∈ l, P a) → l.Pairwise R → insertA x l = some s → s.Pairwise R)
    (l s : List Archive) (hg : ∀ a ∈ l, P a) (h : sortA l = some s) : s.Pairwise R :=
  Proofs.Assoc.foldl_insert_pairwise (fun acc x => insertA x acc) (fun acc x => insertA_perm x acc)
    (fun acc x acc' hacc hx hs => hstep x hx acc acc' hacc hs) l [] s hg (fun _ ha => nomatch ha) List.Pairwise.nil h

section order
variable {P : Archive → Prop} {R : Archive → Archive → Prop}
  (hlt : ∀ x y, P x → P y → archiveLt x y = some true → R x y)
  (hge : ∀ x y, P x → P y → archiveLt x y = some false → R y x)
  (htr : ∀ x y z, P x → P y → P z → R x y → R y z → R x z)
include hlt hge htr

/-- insertion keeps a list sorted by any order that each answer of tuple `<` agrees with and that is transitive
(on the archives satisfying `P`): nothing else is asked of tuple `<` -/
theorem insertA_pairwise (x : Archive) (hx : P x) :
    ∀ (l s : List Archive), (∀ a ∈ l, P a) → l.Pairwise R → insertA x l = some s → s.Pairwise R
  | [], s, _, _, h => by cases h; simp
  | y :: ys, s, hg, hs, h => by
    have hy := hg y List.mem_cons_self
    unfold insertA at h
    split at h
    · cases h
    · rename_i hc
      cases h
      exact List.pairwise_cons.mpr ⟨Proofs.Assoc.rel_of_head htr hx hg (hlt x y hx hy hc) hs, hs⟩
    · rename_i hc
      simp only [Option.map_eq_some_iff] at h
      obtain ⟨s', hs', rfl⟩ := h
      rw [List.pairwise_cons] at hs ⊢
      refine ⟨?_, insertA_pairwise x hx ys s' (fun a ha => hg a (List.mem_cons_of_mem _ ha)) hs.2 hs'⟩
      intro z hz
      rcases List.mem_cons.mp ((insertA_perm x ys s' hs').mem_iff.mp hz) with hzx | hz'
      · rw [hzx]; exact hge x y hx hy hc
      · exact hs.1 z hz'

end order

/-! ### the last element is a maximum of the version order -/

/-- `a`'s version is not later than `b`'s -/
def vle (a b : Archive) : Prop := verLt b.version a.version = false

structure GoodVer (v : Ver) : Prop where
  up : v.upstream.all Policy.upChar = true
  rev : v.revision.all Policy.upChar = true

theorem verLt_eq (a b : Ver) (ha : GoodVer a) (hb : GoodVer b) :
    verLt a b = decide (cmpVer dpkgRk (tupleOf a) (tupleOf b) = .lt) := by
  unfold verLt
  rw [compareVersionObjects_eq a b ha.up ha.rev hb.up hb.rev]
  cases cmpVer dpkgRk (tupleOf a) (tupleOf b) <;> simp [ordInt]

theorem vle_iff (a b : Archive) (ha : GoodVer a.version) (hb : GoodVer b.version) :
    vle a b ↔ cmpVer dpkgRk (tupleOf a.version) (tupleOf b.version) ≠ .gt := by
  unfold vle
  rw [verLt_eq _ _ hb ha]
  have p := cmpVer_pre dpkgRk
  rw [p.swap (tupleOf a.version) (tupleOf b.version)]
  cases cmpVer dpkgRk (tupleOf a.version) (tupleOf b.version) <;> simp [Ordering.swap]

theorem vle_trans (a b c : Archive) (ha : GoodVer a.version) (hb : GoodVer b.version) (hc : GoodVer c.version)
    (h1 : vle a b) (h2 : vle b c) : vle a c := by
  rw [vle_iff _ _ ha hc]
  rw [vle_iff _ _ ha hb] at h1
  rw [vle_iff _ _ hb hc] at h2
  exact (cmpVer_pre dpkgRk).trans_le _ _ _ h1 h2

theorem vle_of_version_eq (a b : Archive) (ha : GoodVer a.version) (he : a.version = b.version) : vle a b := by
  have hb : GoodVer b.version := he ▸ ha
  rw [vle_iff _ _ ha hb, he, (cmpVer_pre dpkgRk).refl]; simp

theorem archiveLt_true (x y : Archive) (hn : x.name = y.name) (hx : GoodVer x.version) (hy : GoodVer y.version)
    (h : archiveLt x y = some true) : vle x y := by
  unfold archiveLt at h
  simp only [hn, ne_eq, not_true_eq_false, if_false] at h
  by_cases hv : x.version = y.version
  · exact vle_of_version_eq x y hx hv
  · simp only [hv, not_false_eq_true, if_true, Option.some.injEq] at h
    rw [vle_iff _ _ hx hy]
    rw [verLt_eq _ _ hx hy] at h
    have : cmpVer dpkgRk (tupleOf x.version) (tupleOf y.version) = .lt := by simpa using h
    rw [this]; simp

theorem archiveLt_false (x y : Archive) (hn : x.name = y.name) (hy : GoodVer y.version)
    (h : archiveLt x y = some false) : vle y x := by
  unfold archiveLt at h
  simp only [hn, ne_eq, not_true_eq_false, if_false] at h
  by_cases hv : x.version = y.version
  · exact vle_of_version_eq y x hy hv.symm
  · simp only [hv, not_false_eq_true, if_true, Option.some.injEq] at h
    exact h

def Good (n : Str) (l : List Archive) : Prop := ∀ a ∈ l, a.name = n ∧ GoodVer a.version

theorem insertA_sorted (n : Str) (x : Archive) (hx : x.name = n ∧ GoodVer x.version) (l s : List Archive)
    (hg : Good n l) (hs : l.Pairwise vle) (h : insertA x l = some s) : s.Pairwise vle :=
  insertA_pairwise (P := fun a => a.name = n ∧ GoodVer a.version)
    (fun x y hx hy => archiveLt_true x y (hx.1.trans hy.1.symm) hx.2 hy.2)
    (fun x y hx hy => archiveLt_false x y (hx.1.trans hy.1.symm) hy.2)
    (fun x y z hx hy hz => vle_trans x y z hx.2 hy.2 hz.2) x hx l s hg hs h

/-- **selection is a maximum**: for archives of one name (with parsed versions), whatever the
architectures and file names, the last element of the sorted list is one of the inputs and no
input's version exceeds it under dpkg order -/
theorem last_is_max (n : Str) (l s : List Archive) (m : Archive) (hg : Good n l)
    (hs : sortA l = some s) (hm : s.getLast? = some m) :
    m ∈ l ∧ ∀ a ∈ l, vle a m := by
  have hperm := sortA_perm l s hs
  have hml := hperm.mem_iff.mp (List.mem_of_getLast? hm)
  have hsorted := sortA_pairwise (insertA_sorted n) l s hg hs
  exact ⟨hml, fun a ha => Proofs.Assoc.rel_getLast hsorted hm (vle_of_version_eq m m (hg m hml).2 rfl) a (hperm.mem_iff.mpr ha)⟩

end Props.C17

/-! ## file names

(a namespace block of its own: it opens the parsing lemmas and not the order) -/

namespace Props.C17
open Py Spec Model.Package Model.Version Proofs.VersionParse Proofs.VersionPrint

/-! ### suffix tests -/

theorem endsWithAny_decomp (b : Str) (L : List String) (h : endsWithAny b L = true) : ∃ q ∈ L, ∃ y, b = y ++ q.toList := by
  simp only [endsWithAny, List.any_eq_true] at h
  obtain ⟨q, hq, he⟩ := h
  exact ⟨q, hq, _, endsWith_decomp b q.toList he⟩

theorem endsWithAny_mem (s : Str) (q : String) (L : List String) (hq : q ∈ L) : endsWithAny (s ++ q.toList) L = true :=
  List.any_eq_true.mpr ⟨q, hq, endsWith_append_self s _⟩

theorem endsWithAny_apart (s : Str) (q : String) (L : List String)
    (h : ∀ q' ∈ L, endsWith q'.toList q.toList = false ∧ endsWith q.toList q'.toList = false) :
    endsWithAny (s ++ q.toList) L = false := by
  cases hc : endsWithAny (s ++ q.toList) L with
  | false => rfl
  | true =>
    simp only [endsWithAny, List.any_eq_true] at hc
    obtain ⟨q', hq', he⟩ := hc
    rcases endsWith_comparable _ _ _ he (endsWith_append_self s _) with h1 | h1
    · rw [(h q' hq').1] at h1; cases h1
    · rw [(h q' hq').2] at h1; cases h1

/-! ### `rpartition` and `splitext` on `stem ++ ending` -/

theorem rpartitionStr_append (sep s e a b : Str) (h : rpartitionStr sep e = some (a, b)) :
    rpartitionStr sep (s ++ e) = some (s ++ a, b) := by
  induction s with
  | nil => exact h
  | cons c cs ih => simp [rpartitionStr, ih]

theorem splitext_ext (y w : Str) (hw : '.' ∉ w) :
    splitext (y ++ '.' :: w) = if y.all (· = '.') then (y ++ '.' :: w, []) else (y, '.' :: w) := by
  unfold splitext
  rw [rpartitionChar_split '.' y w hw]
  simp only [Bool.true_and]
  cases y.all (· = '.') <;> rfl

theorem splitext_dot (stem e : Str) (hus : '_' ∈ stem) (he : '.' ∉ e) :
    splitext (stem ++ '.' :: e) = (stem, '.' :: e) := by
  rw [splitext_ext stem e he, if_neg]
  intro h
  have := List.all_eq_true.mp h '_' hus
  simp at this

theorem splitext_decomp (p : Str) : p = (splitext p).1 ++ (splitext p).2 := by
  unfold splitext
  have hs := rpartitionChar_spec '.' p
  simp only at hs
  by_cases hc : ((rpartitionChar '.' p).2.1 && !(rpartitionChar '.' p).1.all (· = '.')) = true
  · simp only [hc, if_true]
    simp only [Bool.and_eq_true] at hc
    exact (hs.1 hc.1).1
  · simp only [hc]
    simp

/-! ### accepted versions -/

theorem valid_verChar (v : Str) (h : Policy.valid v = true) : ∀ c ∈ v, verChar c = true := by
  unfold Policy.valid at h
  rcases split_first ':' v with hn | ⟨e, r, rfl, hn⟩
  · rw [splitEpoch_not_mem hn] at h
    exact validRest_verChar (Bool.and_eq_true_iff.mp h).2
  · simp only [splitEpoch_split hn, Policy.validEpoch, Bool.and_eq_true] at h
    intro c hc
    rcases List.mem_append.mp hc with hc | hc
    · exact upChar_verChar (List.all_eq_true.mpr fun d hd => digit_upChar (List.all_eq_true.mp h.1.2 d hd)) c hc
    · rcases List.mem_cons.mp hc with rfl | hc
      · rfl
      · exact validRest_verChar h.2 c hc

theorem accepted_valid {v : Str} (h : accepted v = true) : Policy.valid v = true := by
  simp only [accepted, Policy.mustAccept, Bool.and_eq_true] at h
  exact h.1.1.1

theorem verChar_ne {c : Char} (h : verChar c = true) : c ≠ '_' ∧ c ≠ '/' := by
  constructor <;> (intro e; subst e; revert h; decide)

theorem accepted_fromString (v : Str) (h : accepted v = true) :
    ∃ w, fromString v = .ok w ∧ (w.epoch, w.upstream, w.revision) = Policy.split v := by
  have hstrip : strip v = v := strip_of_all fun c hc => verChar_not_space (valid_verChar v (accepted_valid h) c hc)
  obtain ⟨w, hw⟩ := mustAccept_fromString v (by rw [hstrip]; exact h)
  have := (fromString_ok v w hw).2
  rw [hstrip] at this
  exact ⟨w, hw, this⟩

/-! ### the recognised endings -/

theorem tuples_eq : tupleAt 0 = [".deb", ".udeb", ".dsc"] ∧ tupleAt 1 = ["_changelog", "_copyright"] ∧
    tupleAt 2 = [".tar.gz", ".tar.xz", ".tar.bz2", ".tar.lzma"] ∧ tupleAt 3 = [".orig", ".debian"] :=
  ⟨rfl, rfl, rfl, rfl⟩

/-- the endings `knownBasename` peels off, as the tuples of `get_nva` generate them: an extension, a suffix, or
`.orig` / `.debian` followed by a tarball extension -/
def tableEndings : List String :=
  tupleAt 0 ++ tupleAt 1 ++ (tupleAt 3).flatMap fun m => (tupleAt 2).map (m ++ ·)

theorem mem_tableEndings (e : String) :
    e ∈ tableEndings ↔ e ∈ tupleAt 0 ∨ e ∈ tupleAt 1 ∨ ∃ m ∈ tupleAt 3, ∃ t ∈ tupleAt 2, m ++ t = e := by
  simp only [tableEndings, List.mem_append, List.mem_map, List.mem_flatMap, or_assoc]

def allEndings : List String := binaryEndings ++ sourceEndings

/-- the thirteen endings of the property are what the tables generate -/
theorem endings_tables : allEndings.Perm tableEndings := by decide +kernel

/-- no entry of the three tables tested on the whole name is a suffix of another, so a name ends with at most one -/
theorem tests_apart : (tupleAt 0 ++ tupleAt 1 ++ tupleAt 2).Pairwise fun q q' =>
    endsWith q.toList q'.toList = false ∧ endsWith q'.toList q.toList = false := by decide +kernel

theorem ext_shape : ∀ q ∈ tupleAt 0 ++ tupleAt 3,
    q.toList = '.' :: q.toList.tail ∧ '.' ∉ q.toList.tail ∧ '_' ∉ q.toList.tail ∧ '/' ∉ q.toList := by decide +kernel

theorem suffix_shape : ∀ q ∈ tupleAt 1, q.toList = '_' :: q.toList.tail ∧ '_' ∉ q.toList.tail ∧ '/' ∉ q.toList := by
  decide +kernel

/-- `drop 5` takes off `".tar."` -/
theorem tar_shape : ∀ t ∈ tupleAt 2,
    rpartitionStr ".tar.".toList t.toList = some ([], t.toList.drop 5) ∧ '/' ∉ t.toList := by decide +kernel

theorem no_slash (e : String) (he : e ∈ tableEndings) : '/' ∉ e.toList := by
  rcases (mem_tableEndings e).mp he with hq | hq | ⟨m, hm, t, ht, rfl⟩
  · exact (ext_shape e (List.mem_append_left _ hq)).2.2.2
  · exact (suffix_shape e hq).2.2
  · rw [String.toList_append, List.mem_append]
    exact fun h => h.elim (ext_shape m (List.mem_append_right _ hm)).2.2.2 (tar_shape t ht).2

theorem known_of_table (stem : Str) (e : String) (hus : '_' ∈ stem) (he : e ∈ tableEndings) :
    knownBasename (stem ++ e.toList) = some stem := by
  have hap := List.pairwise_append.mp tests_apart
  unfold knownBasename
  rcases (mem_tableEndings e).mp he with hq | hq | ⟨m, hm, t, ht, rfl⟩
  · obtain ⟨e', hdot, _⟩ := ext_shape e (List.mem_append_left _ hq)
    rw [endsWithAny_mem stem e _ hq, if_pos rfl, e', splitext_dot stem _ hus hdot]
  · obtain ⟨e', hw, _⟩ := suffix_shape e hq
    rw [endsWithAny_apart stem e _ fun q' hq' => (List.pairwise_append.mp hap.1).2.2 q' hq' e hq,
      endsWithAny_mem stem e _ hq, if_neg Bool.false_ne_true, if_pos rfl, e', rpartitionChar_split '_' stem _ hw]
  · obtain ⟨e', hdot, _⟩ := ext_shape m (List.mem_append_right _ hm)
    rw [String.toList_append, ← List.append_assoc,
      endsWithAny_apart _ t _ fun q' hq' => hap.2.2 q' (List.mem_append_left _ hq') t ht,
      endsWithAny_apart _ t _ fun q' hq' => hap.2.2 q' (List.mem_append_right _ hq') t ht,
      endsWithAny_mem _ t _ ht, if_neg Bool.false_ne_true, if_neg Bool.false_ne_true, if_pos rfl,
      rpartitionStr_append _ _ _ _ _ (tar_shape t ht).1, List.append_nil]
    simp only
    rw [e', splitext_dot stem _ hus hdot, ← e', if_pos (List.any_eq_true.mpr ⟨m, hm, decide_eq_true rfl⟩)]

theorem table_of_known (b x : Str) (h : knownBasename b = some x) (hus : '_' ∈ x) :
    ∃ e ∈ tableEndings, b = x ++ e.toList := by
  unfold knownBasename at h
  by_cases h0 : endsWithAny b (tupleAt 0) = true
  · obtain ⟨q, hq, y, rfl⟩ := endsWithAny_decomp b _ h0
    obtain ⟨e, hdot, hwus, _⟩ := ext_shape q (List.mem_append_left _ hq)
    refine ⟨q, (mem_tableEndings q).mpr (Or.inl hq), ?_⟩
    rw [if_pos h0, e, splitext_ext y _ hdot] at h
    by_cases hd : y.all (· = '.') = true
    · -- only dots before the extension: no underscore anywhere
      rw [if_pos hd] at h
      cases h
      rw [e, List.mem_append, List.mem_cons] at hus
      rcases hus with hm | hm | hm
      · cases of_decide_eq_true (List.all_eq_true.mp hd _ hm)
      · cases hm
      · exact absurd hm hwus
    · rw [if_neg hd] at h
      cases h; rfl
  · rw [if_neg h0] at h
    by_cases h1 : endsWithAny b (tupleAt 1) = true
    · obtain ⟨q, hq, y, rfl⟩ := endsWithAny_decomp b _ h1
      obtain ⟨e, hw, _⟩ := suffix_shape q hq
      refine ⟨q, (mem_tableEndings q).mpr (Or.inr (Or.inl hq)), ?_⟩
      rw [if_pos h1, e, rpartitionChar_split '_' y _ hw] at h
      cases h; rfl
    · rw [if_neg h1] at h
      by_cases h2 : endsWithAny b (tupleAt 2) = true
      · obtain ⟨t, ht, y, rfl⟩ := endsWithAny_decomp b _ h2
        rw [if_pos h2, rpartitionStr_append _ y _ _ _ (tar_shape t ht).1, List.append_nil] at h
        by_cases h3 : (tupleAt 3).any (fun m => m.toList = (splitext y).2) = true
        · obtain ⟨m, hm, hme⟩ := List.any_eq_true.mp h3
          simp only [h3, if_true] at h
          cases h
          refine ⟨m ++ t, (mem_tableEndings _).mpr (Or.inr (Or.inr ⟨m, hm, t, ht, rfl⟩)), ?_⟩
          rw [String.toList_append, ← List.append_assoc, of_decide_eq_true hme, ← splitext_decomp]
        · simp only [h3] at h
          cases h
      · rw [if_neg h2] at h
        cases h

theorem known_ending (ending stem : Str) (hus : '_' ∈ stem)
    (hE : String.ofList ending ∈ binaryEndings ++ sourceEndings) :
    knownBasename (stem ++ ending) = some stem ∧ '/' ∉ ending := by
  have he := endings_tables.mem_iff.mp hE
  rw [← String.toList_ofList (l := ending)]
  exact ⟨known_of_table stem _ hus he, no_slash _ he⟩

theorem known_decomp (b x : Str) (h : knownBasename b = some x) (hus : '_' ∈ x) :
    ∃ e ∈ allEndings, b = x ++ e.toList := by
  obtain ⟨e, he, hb⟩ := table_of_known b x h hus
  exact ⟨e, endings_tables.mem_iff.mpr he, hb⟩

/-! ### the round trip -/

def archPart (a : Option Str) : Str := match a with | some a => '_' :: a | none => []

theorem getNva_render (n v : Str) (a : Option Str) (e : Str) (w : Ver) (hn : '_' ∉ n) (hv : '_' ∉ v)
    (ha : ∀ x, a = some x → '_' ∉ x) (hw : fromString v = .ok w)
    (he : String.ofList e ∈ binaryEndings ++ sourceEndings) :
    getNva (n ++ '_' :: v ++ archPart a ++ e) = .ok (n, w, a) := by
  unfold getNva
  rw [(known_ending e _ (by simp) he).1]
  have hsplit := splitChar_join '_' (n :: v :: a.toList) (by simp)
  cases a with
  | none =>
    have := hsplit (by simp [hn, hv])
    simp only [Option.toList, join, List.append_assoc, List.singleton_append] at this
    simp only [archPart, List.append_nil, this, hw]
  | some x =>
    have := hsplit (by simp [hn, hv, ha x rfl])
    simp only [Option.toList, join, List.append_assoc, List.singleton_append] at this
    simp only [archPart, List.append_assoc, List.cons_append, this, hw]

theorem basename_dir (dir base : Str) (hd : dir.isEmpty = true ∨ lastP (· = '/') dir = true) (hb : '/' ∉ base) :
    basename (dir ++ base) = base := by
  unfold basename
  rcases hd with hd | hd
  · have : dir = [] := by simpa using hd
    subst this
    simp [rpartitionChar_not_mem '/' base hb]
  · obtain ⟨a, c, hac, hc⟩ := lastP_mem hd
    have : c = '/' := by simpa using hc
    subst this
    rw [hac, List.append_assoc]
    simp [rpartitionChar_split '/' a base hb]

/-- **C17, file names** — a file name built from a package name, an accepted version, (for binary
packages) an architecture, any of the thirteen endings and any directory prefix parses to exactly
that name, dpkg's decomposition of that version, that architecture, and keeps the original path -/
theorem roundtrip (i : InputA) : holdsOnA i (modelA i.filename) = true := by
  unfold holdsOnA
  cases hw : wfA i with
  | false => rfl
  | true =>
    simp only [wfA, Bool.and_eq_true, Bool.or_eq_true, Bool.not_eq_true', beq_iff_eq, List.contains_eq_mem,
      decide_eq_false_iff_not] at hw
    obtain ⟨⟨⟨⟨⟨⟨hdir, _⟩, hnus⟩, hnsl⟩, hacc⟩, harch⟩, hfn⟩ := hw
    obtain ⟨w, hw1, hw2⟩ := accepted_fromString i.version hacc
    have hvch c hc := verChar_ne (valid_verChar i.version (accepted_valid hacc) c hc)
    have hEA : String.ofList i.ending ∈ binaryEndings ++ sourceEndings ∧ '/' ∉ archPart i.arch ∧
        ∀ a, i.arch = some a → '_' ∉ a := by
      cases ha : i.arch with
      | none =>
        simp only [ha, decide_eq_true_eq] at harch
        exact ⟨List.mem_append_right _ harch, List.not_mem_nil, nofun⟩
      | some a =>
        simp only [ha, Bool.and_eq_true, Bool.not_eq_true', decide_eq_false_iff_not, decide_eq_true_eq] at harch
        exact ⟨List.mem_append_left _ harch.2, by simpa [archPart] using harch.1.2,
          fun _ h' => by cases h'; exact harch.1.1.1.2⟩
    have hvsl : '/' ∉ i.version := fun hm => (hvch _ hm).2 rfl
    have hesl := (known_ending i.ending [_] List.mem_cons_self hEA.1).2
    have hbase : '/' ∉ i.name ++ '_' :: i.version ++ archPart i.arch ++ i.ending := by
      simp [hnsl, hvsl, hEA.2.1, hesl]
    have hfn' : i.filename = i.dir ++ (i.name ++ '_' :: i.version ++ archPart i.arch ++ i.ending) := by
      simp only [hfn, render, List.append_assoc]
      rfl
    have hbn := basename_dir i.dir _ hdir hbase
    rw [← hfn'] at hbn
    simp only [Bool.not_true, Bool.false_or, decide_eq_true_eq]
    unfold modelA debFromFilename
    rw [hbn, getNva_render i.name i.version i.arch i.ending w hnus (fun hm => (hvch _ hm).1 rfl) hEA.2.2 hw1 hEA.1]
    simp only [Except.map, aTup, hw2]

/-! ## the rejection clause -/

theorem endings_apart : ∀ e1 ∈ allEndings, ∀ e2 ∈ allEndings, e1 ≠ e2 → endsWith e1.toList e2.toList = false := by
  decide +kernel

/-- the stem of a base name, as the specification reads it -/
def stemB (b : Str) : Option Str :=
  allEndings.findSome? fun e => if endsWith b e.toList then some (b.take (b.length - e.length)) else none

theorem stem_eq (fn : Str) : stem fn = stemB (rpartitionChar '/' fn).2.2 := rfl

theorem stem_of (b s : Str) (e : String) (he : e ∈ allEndings) (hb : b = s ++ e.toList) : stemB b = some s := by
  subst hb
  have hbe := endsWith_append_self s e.toList
  unfold stemB
  rw [Proofs.Assoc.findSome_unique _ _ e he, if_pos hbe, ← String.length_toList]
  · simp
  · -- two endings of one name are the same ending
    intro y hy hsome
    have hyb : endsWith (s ++ e.toList) y.toList = true := by
      cases h : endsWith (s ++ e.toList) y.toList with
      | true => rfl
      | false => rw [h] at hsome; cases hsome
    apply Decidable.byContradiction
    intro hne
    rcases endsWith_comparable _ _ _ hyb hbe with h | h
    · rw [endings_apart y hy e he hne] at h; cases h
    · rw [endings_apart e he y hy (Ne.symm hne)] at h; cases h

theorem getNva_error (b : Str) (e : PyExc) (h : getNva b = .error e) : e = .valueError := by
  unfold getNva at h
  split at h
  · cases h; rfl
  · split at h
    · split at h
      · cases h
      · cases h; exact fromString_error _ _ ‹_›
    · split at h
      · cases h
      · cases h; exact fromString_error _ _ ‹_›
    · cases h; rfl

theorem getNva_ok_not_rejected (fn : Str) (n : Str) (v : Ver) (a : Option Str)
    (h : getNva (basename fn) = .ok (n, v, a)) : mustReject fn = false := by
  -- two or three underscore-separated parts, the second a version
  have key : ∀ (x n0 evr : Str) (rest : List Str) (w : Ver), knownBasename (basename fn) = some x →
      splitChar '_' x = n0 :: evr :: rest → rest.length ≤ 1 → fromString evr = .ok w → mustReject fn = false := by
    intro x n0 evr rest w hk hsp hlen hw
    obtain ⟨e, he, hbe⟩ := known_decomp (basename fn) x hk (sep_mem_of_two '_' x n0 evr rest hsp)
    have hvalid := (fromString_ok evr w hw).1
    have hstem : stem fn = some x := (stem_eq fn).trans (stem_of _ x e he hbe)
    unfold mustReject
    rw [hstem]
    simp only [hsp]
    match rest, hlen with
    | [], _ => simp [hvalid]
    | [_], _ => simp [hvalid]
  unfold getNva at h
  split at h
  · cases h
  · rename_i x hk
    split at h
    · rename_i n0 evr hs
      split at h
      · exact key x n0 evr [] _ hk hs (by simp) ‹_›
      · cases h
    · rename_i n0 evr arch hs
      split at h
      · exact key x n0 evr [arch] _ hk hs (by simp) ‹_›
      · cases h
    · cases h

/-- **C17, the rejection clause**: a file name with no recognised extension or suffix, with a stem that is not two or
three underscore-separated parts, or with a version part that is not a valid version, is rejected with ValueError -/
theorem soundB (fn : Str) : holdsOnB fn (modelA fn) = true := by
  unfold holdsOnB
  cases hm : mustReject fn with
  | false => rfl
  | true =>
    simp only [Bool.not_true, Bool.false_or, decide_eq_true_eq]
    unfold modelA debFromFilename
    cases hg : getNva (basename fn) with
    | error e => rw [getNva_error _ e hg]; rfl
    | ok r =>
      obtain ⟨n, v, a⟩ := r
      have := getNva_ok_not_rejected fn n v a hg
      rw [hm] at this; cases this

end Props.C17
