/-
C15 — Relationship matching: property theorems.
-/
import DebInspector.Props.C15
import DebInspector.Thm.C01
import DebInspector.Thm.C02

namespace Props.C15
open Py Spec Spec.VerOrder Model.Version Model.Deps Proofs.VersionParse Proofs.VersionOrder

def knownOps : List String := ["<<", "<=", "<", "=", ">=", ">", ">>"]

theorem evalOp_known : ∀ op ∈ knownOps, ∀ r ∈ [(-1 : Int), 0, 1],
    evalOp op r = (match opHolds op r with | some b => .ok b | none => .error .valueError) := by
  decide +kernel

/-- an operator string other than the seven is absent from the extracted table, and from the property's -/
theorem evalOp_unknown (op : String) (h : op ∉ knownOps) (r : Int) :
    evalOp op r = .error .valueError ∧ opHolds op r = none := by
  simp only [knownOps, List.mem_cons, List.not_mem_nil, or_false, not_or] at h
  obtain ⟨h1, h2, h3, h4, h5, h6, h7⟩ := h
  have hl : Generated.ops.lookup op = none := by
    simp [Generated.ops, List.lookup, beq_eq_false_iff_ne.mpr h1, beq_eq_false_iff_ne.mpr h2,
      beq_eq_false_iff_ne.mpr h3, beq_eq_false_iff_ne.mpr h4, beq_eq_false_iff_ne.mpr h5,
      beq_eq_false_iff_ne.mpr h6, beq_eq_false_iff_ne.mpr h7]
  exact ⟨by rw [evalOp, hl], by simp only [opHolds, h1, h2, h3, h4, h5, h6, h7, if_false]⟩

/-- the operator table extracted from `eval_constraint` is policy's table: the seven operators mean
what the property says, every other operator string raises `ValueError` -/
theorem evalOp_eq_opHolds (op : String) (r : Int) (hr : r = -1 ∨ r = 0 ∨ r = 1) :
    evalOp op r = (match opHolds op r with | some b => .ok b | none => .error .valueError) := by
  by_cases hk : op ∈ knownOps
  · exact evalOp_known op hk r (by rcases hr with rfl | rfl | rfl <;> decide)
  · rw [(evalOp_unknown op hk r).1, (evalOp_unknown op hk r).2]

theorem acceptance_true {s : Str} (h : acceptance s = some true) : ∃ v, fromString s = .ok v := by
  unfold acceptance at h
  simp only at h
  split at h
  · rename_i hm; exact mustAccept_fromString s hm
  · split at h <;> simp at h

theorem acceptance_false {s : Str} (h : acceptance s = some false) : fromString s = .error .valueError := by
  unfold acceptance at h
  simp only at h
  split at h
  · simp at h
  · split at h
    · rename_i hv
      cases hf : fromString s with
      | error x => rw [fromString_error s x hf]
      | ok v =>
        have := (fromString_ok s v hf).1
        rw [this] at hv; simp at hv
    · simp at h

theorem acceptance_cases {s : Str} (h : (acceptance s).isSome = true) :
    acceptance s = some true ∨ acceptance s = some false := by
  cases ha : acceptance s with
  | none => rw [ha] at h; cases h
  | some b => cases b <;> simp

/-- **the comparison inside a versioned relationship**: candidate on the left, required version on
the right, under dpkg order -/
theorem evalConstraint_spec (cand v : Str) (op : String)
    (hc : (acceptance cand).isSome = true) (hv : (acceptance v).isSome = true) :
    evalConstraint cand op v =
      (if acceptance cand = some true && acceptance v = some true then
        match opHolds op (dpkgCmpVersions (strip cand) (strip v)) with
        | some b => .ok b
        | none => .error .valueError
      else .error .valueError) := by
  unfold evalConstraint
  rcases acceptance_cases hc with ac | ac
  · obtain ⟨vc, hvc⟩ := acceptance_true ac
    rcases acceptance_cases hv with av | av
    · obtain ⟨vv, hvv⟩ := acceptance_true av
      have hcmp := Props.C01.compareVersions_eq_dpkg cand v vc vv hvc hvv
      rw [hcmp]
      simp only [ac, av, Bool.and_self]
      have hr := Props.C02.cmp_values cand v _ hcmp
      exact evalOp_eq_opHolds op _ hr
    · have hvv := acceptance_false av
      simp [compareVersions, hvc, hvv, ac, av]
  · have hvc := acceptance_false ac
    simp [compareVersions, hvc, ac]

theorem filter_isEmpty (results : List Tri) :
    (results.filter (· ≠ .n)).isEmpty = results.all (· = .n) := by
  induction results with
  | nil => rfl
  | cons x xs ih =>
    cases x
    · simp [List.filter]
    · simp [List.filter]
    · simpa [List.filter] using ih

theorem guarded_eq {α : Type} {d c : Bool} {x y : α} [Decidable (x = y)] (h : d = true → c = true → x = y) :
    (!(d && c) || decide (x = y)) = true := by
  cases d
  · rfl
  · cases c
    · rfl
    · exact decide_eq_true (h rfl rfl)

variable (name : Str) (version : Option Str) (hcand : candOk version = true)
include hcand

theorem versioned_eq_spec (n op v : Str) (archs : List Str) (hv : (acceptance v).isSome = true) :
    relMatches name version (.versioned n op v archs) = spec name version (.versioned n op v archs) := by
  show (if n = name then _ else _) = if n = name then _ else _
  by_cases hn : n = name
  · rw [if_pos hn, if_pos hn]
    cases version with
    | none => rfl
    | some cand =>
      have hc : (acceptance cand).isSome = true := hcand
      show (if (!archs.isEmpty) = true then _ else _) = if (!archs.isEmpty) = true then _ else _
      by_cases ha : (!archs.isEmpty) = true
      · rw [if_pos ha, if_pos ha]
      · rw [if_neg ha, if_neg ha, evalConstraint_spec cand v (String.ofList op) hc hv]
        by_cases hacc : (acceptance cand = some true && acceptance v = some true) = true
        · rw [if_pos hacc, if_pos hacc]
          cases opHolds (String.ofList op) (dpkgCmpVersions (strip cand) (strip v)) <;> rfl
        · rw [if_neg hacc, if_neg hacc]
  · rw [if_neg hn, if_neg hn]

mutual
theorem relMatches_eq_spec : ∀ r : Rel, determined r = true → relMatches name version r = spec name version r
  | .simple n archs, _ => rfl
  | .versioned n op v archs, hd => versioned_eq_spec name version hcand n op v archs hd
  | .or rs, hd => by
    unfold relMatches spec
    exact matchesOr_eq_spec rs .n hd
  | .and rs, hd => by
    unfold relMatches spec
    rw [matchesAll_eq_spec rs hd]
    cases specAll name version rs with
    | error e => rfl
    | ok results =>
      simp only
      rw [filter_isEmpty]

theorem matchesOr_eq_spec : ∀ (rs : List Rel) (acc : Tri), determinedList rs = true →
    matchesOr name version rs acc = specOr name version rs acc
  | [], _, _ => rfl
  | r :: rs, acc, hd => by
    have hd := Bool.and_eq_true_iff.mp hd
    unfold matchesOr specOr
    rw [relMatches_eq_spec r hd.1]
    cases spec name version r with
    | error e => rfl
    | ok x =>
      cases x
      · rfl
      · exact matchesOr_eq_spec rs .f hd.2
      · exact matchesOr_eq_spec rs acc hd.2

theorem matchesAll_eq_spec : ∀ (rs : List Rel), determinedList rs = true →
    matchesAll name version rs = specAll name version rs
  | [], _ => rfl
  | r :: rs, hd => by
    have hd := Bool.and_eq_true_iff.mp hd
    unfold matchesAll specAll
    rw [relMatches_eq_spec r hd.1, matchesAll_eq_spec rs hd.2]
    cases spec name version r with
    | error e => rfl
    | ok x => cases specAll name version rs <;> rfl
end

omit hcand in
/-- **C15** for relationship trees of any depth and width -/
theorem sound (i : Input) : holdsOn i (model i) = true :=
  guarded_eq fun hd hc => relMatches_eq_spec i.name i.version hc i.tree hd

theorem matchRelationships_eq_spec : ∀ (rs : List Rel) (acc : Tri), acc ≠ .f → determinedList rs = true →
    matchRelationships name version rs acc = specM name version rs acc
  | [], acc, _, _ => rfl
  | r :: rs, acc, hacc, hd => by
    have hd := Bool.and_eq_true_iff.mp hd
    unfold matchRelationships specM
    rw [relMatches_eq_spec name version hcand r hd.1]
    cases spec name version r with
    | error e => rfl
    | ok x =>
      cases x
      · simp only [hacc, if_false]
        exact matchRelationships_eq_spec rs .t (by simp) hd.2
      · rfl
      · exact matchRelationships_eq_spec rs acc hacc hd.2

omit hcand in
/-- `match_relationships`: the sets are asked in order up to the first False -/
theorem soundM (i : InputM) : holdsOnM i (modelM i) = true :=
  guarded_eq fun hd hc => matchRelationships_eq_spec i.name i.version hc i.sets .n (by simp) hd

theorem unknown_operator_raises (op : String) (h : op ∉ knownOps) (r : Int) :
    evalOp op r = .error .valueError :=
  (evalOp_unknown op h r).1

/-- non-vacuity: a boundary candidate, order-equal but textually different, on the legacy operator -/
example : model ⟨.versioned "a".toList "<".toList "1.0".toList [], "a".toList, some "1.00".toList⟩ = .ok .t := by
  decide +kernel
example : model ⟨.versioned "a".toList "<<".toList "1.0".toList [], "a".toList, some "1.00".toList⟩ = .ok .f := by
  decide +kernel
example : model ⟨.and [.or [.simple "x".toList [], .versioned "a".toList ">=".toList "2".toList []], .simple "b".toList []],
    "a".toList, some "2~1".toList⟩ = .ok .f := by decide +kernel
example : model ⟨.versioned "a".toList "~".toList "1".toList [], "a".toList, some "1".toList⟩ = .error .valueError := by
  decide +kernel

end Props.C15
