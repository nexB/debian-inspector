/-
C03 — the property theorems; the lemmas about `fromString` are in `Proofs/VersionParse.lean`.
-/
import DebInspector.Props.C03
import DebInspector.Proofs.VersionParse

namespace Props.C03
open Py Spec Model.Version Proofs.VersionParse

/-- accepted ⇒ the trimmed string is policy-valid and the result is dpkg's decomposition -/
theorem accept_imp_valid (s : Str) (e : Nat) (u r : Str) (h : model s = .ok (e, u, r)) :
    Policy.valid (strip s) = true ∧ (e, u, r) = Policy.split (strip s) := by
  unfold model at h
  cases hf : fromString s with
  | error x => rw [hf] at h; cases h
  | ok v =>
    rw [hf] at h
    have := fromString_ok s v hf
    simp only [Except.map] at h
    cases h
    exact this

/-- rejected ⇒ `ValueError` and nothing else, for every Unicode string -/
theorem only_valueError (s : Str) (x : PyExc) (h : model s = .error x) : x = .valueError := by
  unfold model at h
  cases hf : fromString s with
  | error y =>
    rw [hf] at h
    simp only [Except.map] at h
    cases h
    exact fromString_error s _ hf
  | ok v => rw [hf] at h; cases h

/-- every policy-valid string whose upstream and revision end in an alphanumeric (and whose epoch
the interpreter can convert, K2) is accepted -/
theorem mustAccept_imp_ok (s : Str)
    (h : Policy.mustAccept Generated.intMaxStrDigits (strip s) = true) : Props.isOk (model s) = true := by
  obtain ⟨v, hv⟩ := mustAccept_fromString s h
  simp [model, hv, Except.map, Props.isOk]

/-- the obligation without a limit on the epoch (`0`) gives the one under the interpreter's limit when the epoch is short
enough -/
theorem mustAccept_limit (t : Str) (h0 : Policy.mustAccept 0 t = true)
    (hl : (Generated.intMaxStrDigits = 0 || Policy.epochLen t ≤ Generated.intMaxStrDigits) = true) :
    Policy.mustAccept Generated.intMaxStrDigits t = true := by
  simp only [Policy.mustAccept, Bool.and_eq_true] at h0 ⊢
  refine ⟨h0.1, ?_⟩
  have hl' : (Generated.intMaxStrDigits = 0 ∨ Policy.epochLen t ≤ Generated.intMaxStrDigits) := by
    simpa using hl
  unfold Policy.epochLen at hl'
  cases he : (Policy.splitEpoch t).1 with
  | none => rfl
  | some e => simp only [he] at hl'; simpa using hl'

/-- clauses (1) and (2) hold for every Unicode string, without the K2 hypothesis -/
theorem sound_accept_reject (s : Str) :
    (match model s with
     | .ok r => Policy.valid (strip s) && r == Policy.split (strip s)
     | .error k => k == .valueError) = true := by
  cases hm : model s with
  | error x => rw [only_valueError s x hm]; rfl
  | ok t =>
    obtain ⟨e, u, r⟩ := t
    have := accept_imp_valid s e u r hm
    exact Bool.and_eq_true_iff.mpr ⟨this.1, beq_iff_eq.mpr this.2⟩

/-- **C03** (partial: K2) — for every Unicode string whose epoch, if any, the interpreter can
convert (at most `sys.get_int_max_str_digits()` digits) the property holds of the model.
The full statement is `∀ s, holdsOn s (model s) = true`; it is false of a valid version whose epoch has more digits than
that (finding K2). -/
theorem sound_partial (s : Str) (hK2 : epochConvertible s = true) : holdsOn s (model s) = true := by
  unfold holdsOn
  rw [Bool.and_eq_true]
  refine ⟨sound_accept_reject s, ?_⟩
  cases hA : Policy.mustAccept 0 (strip s) with
  | false => rfl
  | true => exact mustAccept_imp_ok s (mustAccept_limit _ hA hK2)

/-- non-vacuity: a three-part version with an epoch is accepted and split at the first colon and
the last hyphen -/
example : model "1:2-3-4".toList = .ok (1, "2-3".toList, "4".toList) := by
  -- the kernel would otherwise encode each literal to UTF-8 and decode it again
  rw [String.toList_ofList, String.toList_ofList, String.toList_ofList]
  decide +kernel
example : Policy.mustAccept Generated.intMaxStrDigits (strip " 1:2-3-4 ".toList) = true := by
  rw [String.toList_ofList]
  decide +kernel
example : model "1:a".toList = .error .valueError := by
  rw [String.toList_ofList]
  decide +kernel

end Props.C03
