/-
C07 — totality of the lenient pipeline (`sound`): `from_fields`, the merge of contiguous unknown paragraphs, the fold
into an empty license and the rendering never raise.
-/
import DebInspector.Props.C07
import DebInspector.Proofs.CopyrightTotal

namespace Props.C07
open Py Model.Deb822 Model.Debcon Model.Copyright Proofs.CopyrightTotal Proofs.Assoc

/-- `from_fields` finds an unused name within `|seen| + 1` iterations: the termination argument behind F4 -/
theorem freshName_some (seen : List Str) (name : Str) (suffix : Nat) :
    ∃ n s, freshName seen name (seen.length + 1) name suffix = some (n, s) ∧ n ∉ seen :=
  Proofs.CopyrightTotal.freshName_some name seen (seen.length + 1) name suffix (Nat.lt_succ_self _) (Or.inl rfl)

/-- neither the clash assertion nor the index errors of `from_fields` can fire -/
theorem addField_ok (knownNames : List Str) (a : Acc) (f : Fld) (h : KeysSeen a) :
    ∃ a', addField knownNames a f = .ok a' ∧ KeysSeen a' :=
  Proofs.CopyrightTotal.addField_ok knownNames a f h

theorem fromFields_ok (k : Kind) (fields : List Fld) : ∃ p, fromFields k fields = .ok p :=
  Proofs.CopyrightTotal.fromFields_ok k fields

/-- non-vacuity: three inputs on which the library raised -/
example : Props.isOk (model "License-1: a\nLicense: b\nLicense: c\n".toList).copyright = true := by
  -- the kernel would otherwise encode the literal to UTF-8 and decode it again
  rw [String.toList_ofList]
  decide +kernel
example : Props.isOk (model "Files: *\nExtra-Data: x\n".toList).copyright = true := by
  rw [String.toList_ofList]
  decide +kernel
example : holdsOn [] (model "License:\n\njunk\n\nmore\n\nLicense: x\n".toList) = true := by
  rw [String.toList_ofList]
  decide +kernel

/-! ### the paragraph `from_fields` builds -/

/-- every entry of `extra_data` is a string and has a line range -/
def ExtraInv (extra : List (Str × XV)) (lines : List (Str × (Nat × Nat))) : Prop :=
  ∀ kv ∈ extra, (∃ v, kv.2 = .s v) ∧ kv.1 ∈ lines.map (·.1)

theorem addField_extraInv (knownNames : List Str) (a : Acc) (f : Fld) (a' : Acc) (hs : KeysSeen a)
    (hinv : ExtraInv a.extra a.lines) (h : addField knownNames a f = .ok a') : ExtraInv a'.extra a'.lines := by
  cases hv : (fieldText f).isEmpty with
  | true => cases h.symm.trans (addField_empty knownNames a f hv); exact hinv
  | false =>
    obtain ⟨name, suffix, first, last, _, _, _, _, h'⟩ := addField_store knownNames a f hs hv
    cases h.symm.trans h'
    have old : ∀ rng, ∀ kv ∈ a.extra, (∃ v, kv.2 = .s v) ∧ kv.1 ∈ (lset a.lines name rng).map (·.1) :=
      fun _ kv hkv => ⟨(hinv kv hkv).1, lset_keys_mono _ _ _ _ (hinv kv hkv).2⟩
    intro kv hkv
    simp only [store] at hkv ⊢
    split at hkv
    · exact old _ kv hkv
    · rcases List.mem_append.mp hkv with h | h
      · exact old _ kv h
      · rw [List.mem_singleton.mp h]; exact ⟨⟨_, rfl⟩, lset_keys_mem _ _ _⟩

/-- what `from_fields` guarantees of the paragraph it builds, as far as the merge needs it -/
def Good (p : Para) : Prop :=
  ExtraInv p.extra p.lines ∧ (p.kind = .catchall → p.fields = [])

theorem fromFields_good (k : Kind) (fields : List Fld) : ∃ p, fromFields k fields = .ok p ∧ Good p := by
  obtain ⟨a, ha, h⟩ := fromFields_inv k (fun a => ExtraInv a.extra a.lines) (addField_extraInv _) nofun fields
  refine ⟨_, h, ha, fun (hk : k = .catchall) => ?_⟩
  subst hk
  simp only [mkPara, typedFields_catchall, List.map_nil]

/-! ### the dictionary form -/

/-- the step of `to_dict` over `extra_data` -/
def dstep (d : List (Str × DV)) (nv : Str × XV) : List (Str × DV) := lset d nv.1 (extraOut nv.2)

theorem toDict_eq (p : Para) :
    toDict p = p.extra.foldl dstep (p.fields.map fun nf => (nf.1, .s (dumps nf.2))) := rfl

theorem toDict_fresh (q : Para) (hnd : (q.extra.map (·.1)).Nodup) (hdis : ∀ nv ∈ q.extra, nv.1 ∉ q.fields.map (·.1)) :
    toDict q = (q.fields.map fun nf => (nf.1, XV.s (dumps nf.2))) ++ q.extra.map fun nv => (nv.1, extraOut nv.2) :=
  fold_lset_fresh q.extra (·.1) (fun nv => extraOut nv.2) _ hnd (by rw [List.map_map]; exact hdis)

theorem toDict_mkPara (K : Kind) (a : Acc) (hnd : (a.extra.map (·.1)).Nodup)
    (hout : ∀ k ∈ a.extra.map (·.1), k ∉ (typedFields K).map (·.1)) :
    toDict (mkPara K a) =
      ((typedFields K).map fun nc => (nc.1, XV.s (dumps (fromValue nc.2 (a.known.lookup nc.1))))) ++
        a.extra.map fun nv => (nv.1, extraOut nv.2) := by
  rw [toDict_fresh (mkPara K a) hnd fun nv hnv => by
    rw [mkPara, List.map_map]; exact hout nv.1 (List.mem_map_of_mem hnv), mkPara, List.map_map]
  rfl

theorem foldl_dstep_values (extra : List (Str × XV)) (d : List (Str × DV))
    (he : ∀ kv ∈ extra, ∃ v, kv.2 = XV.s v) (hd : ∀ kv ∈ d, ∃ v, kv.2 = XV.s v) :
    ∀ kv ∈ extra.foldl dstep d, ∃ v, kv.2 = XV.s v := by
  induction extra generalizing d with
  | nil => exact hd
  | cons nv rest ih =>
    apply ih (dstep d nv) (fun kv h => he kv (List.mem_cons_of_mem _ h))
    intro kv hkv
    rcases lset_mem _ _ _ kv hkv with h | h
    · exact hd kv h
    · obtain ⟨v, hv⟩ := he nv List.mem_cons_self
      rw [h, hv]; exact ⟨_, rfl⟩

theorem toDict_values_s (p : Para) (he : ∀ kv ∈ p.extra, ∃ v, kv.2 = XV.s v) :
    ∀ kv ∈ toDict p, ∃ v, kv.2 = XV.s v := by
  apply foldl_dstep_values _ _ he
  intro kv hkv
  obtain ⟨nf, _, rfl⟩ := List.mem_map.mp hkv
  exact ⟨_, rfl⟩

theorem foldl_dstep_lookup_s (extra : List (Str × XV)) (d : List (Str × DV)) (k : Str) (x : Str)
    (h : (extra.foldl dstep d).lookup k = some (XV.s x)) :
    (∃ v, (k, XV.s v) ∈ extra) ∨ d.lookup k = some (XV.s x) := by
  induction extra generalizing d with
  | nil => exact Or.inr h
  | cons nv rest ih =>
    rcases ih (dstep d nv) h with ⟨v, hv⟩ | h'
    · exact Or.inl ⟨v, List.mem_cons_of_mem _ hv⟩
    · obtain ⟨n1, n2⟩ := nv
      rw [dstep, lookup_lset] at h'
      split at h'
      · next e =>
        subst e
        cases n2 with
        | s v => exact Or.inl ⟨v, List.mem_cons_self⟩
        | emptyList => cases h'
      · exact Or.inr h'

theorem toDict_nil_of (p : Para) (hf : p.fields = []) (he : p.extra = []) : toDict p = [] := by
  rw [toDict_eq, hf, he]; rfl

/-! ### the merge never raises -/

/-- what the fold step needs of a paragraph -/
def FoldInv (p : Para) : Prop :=
  (p.kind = .catchall → p.fields = []) ∧ ∀ k v, (k, XV.s v) ∈ p.extra → k ∈ p.lines.map (·.1)

theorem good_foldInv {p : Para} (h : Good p) : FoldInv p :=
  ⟨h.2, fun k v hkv => (h.1 (k, .s v) hkv).2⟩

/-- the paragraph `merge_contiguous_unknown_paragraphs` makes of a run `g` whose dictionary values are all strings: their
formatted lines as one `unknown` value (`[]` when there are none) and the hull of all line ranges -/
def merged (g : List Para) : Para where
  kind := .catchall
  fields := []
  extra := [(unknownName, if ((g.flatMap fun p => (toDict p).map (·.2)).filterMap dvStr).isEmpty then .emptyList
    else .s (fromFormattedLines ((g.flatMap fun p => (toDict p).map (·.2)).filterMap dvStr)))]
  lines := match g.flatMap fun p => p.lines.map (·.2) with
    | [] => []
    | n :: ns => [(unknownName, (ns.foldl (fun m x => min m x.1) n.1, ns.foldl (fun m x => max m x.2) n.2))]

theorem mergeRun_eq (g : List Para) :
    mergeRun g = if (g.flatMap fun p => (toDict p).map (·.2)).any (fun v => v = .emptyList) then .error .attributeError
      else .ok (merged g) := rfl

theorem mergeRun_of_strings (g : List Para) (h : ∀ v ∈ g.flatMap fun p => (toDict p).map (·.2), ∃ s, v = XV.s s) :
    mergeRun g = .ok (merged g) := by
  rw [mergeRun_eq, if_neg]
  intro hany
  obtain ⟨v, hv, he⟩ := List.any_eq_true.mp hany
  obtain ⟨s, hs⟩ := h v hv
  rw [hs] at he
  cases of_decide_eq_true he

theorem mergeRun_inv {g : List Para} {m : Para} (h : mergeRun g = .ok m) :
    (∀ v ∈ g.flatMap fun p => (toDict p).map (·.2), ∃ s, v = XV.s s) ∧ m = merged g := by
  rw [mergeRun_eq] at h
  split at h
  · cases h
  · next hany =>
    refine ⟨fun v hv => ?_, (Except.ok.inj h).symm⟩
    cases v with
    | s s => exact ⟨s, rfl⟩
    | emptyList => exact absurd (List.any_eq_true.mpr ⟨_, hv, decide_eq_true rfl⟩) hany

theorem toDict_merged (g : List Para) : toDict (merged g) = (merged g).extra.map fun nv => (nv.1, extraOut nv.2) :=
  toDict_fresh (merged g) (List.pairwise_singleton _ _) fun _ _ => List.not_mem_nil

theorem merged_lines_keys (g : List Para) :
    (merged g).lines.map (·.1) = if (g.flatMap fun p => p.lines.map (·.2)).isEmpty then [] else [unknownName] := by
  rw [merged]
  cases g.flatMap fun p => p.lines.map (·.2) <;> rfl

theorem run_ranges_ne_nil (contigs : List Para) (h : ∀ p ∈ contigs, Good p ∧ p.kind = .catchall)
    (hd : (contigs.flatMap fun p => (toDict p).map (·.2)) ≠ []) : (contigs.flatMap fun p => p.lines.map (·.2)) ≠ [] := by
  intro e
  apply hd
  rw [List.flatMap_eq_nil_iff] at e ⊢
  intro p hp
  obtain ⟨hg, hk⟩ := h p hp
  have hl : p.lines = [] := List.map_eq_nil_iff.mp (e p hp)
  have hex : p.extra = [] := List.eq_nil_iff_forall_not_mem.mpr fun kv hkv => by
    have := (hg.1 kv hkv).2
    rw [hl] at this; cases this
  rw [toDict_nil_of p (hg.2 hk) hex]; rfl

theorem mergeRun_ok (contigs : List Para) (h : ∀ p ∈ contigs, Good p ∧ p.kind = .catchall) :
    ∃ m, mergeRun contigs = .ok m ∧ FoldInv m := by
  refine ⟨_, mergeRun_of_strings contigs fun v hv => ?_, fun _ => rfl, fun k v hkv => ?_⟩
  · obtain ⟨p, hp, hv⟩ := List.mem_flatMap.mp hv
    obtain ⟨kv, hkv, rfl⟩ := List.mem_map.mp hv
    exact toDict_values_s p (fun kv hkv => ((h p hp).1.1 kv hkv).1) kv hkv
  · obtain ⟨rfl, hv⟩ := Prod.mk.inj (List.mem_singleton.mp hkv)
    -- the merged text is not empty, so some member has an entry, hence a line range
    have hnums := run_ranges_ne_nil contigs h fun e => by rw [e] at hv; simp at hv
    rw [merged_lines_keys, if_neg (by rwa [List.isEmpty_iff])]
    exact List.mem_singleton_self _

theorem groupByKind_cons (p : Para) (ps : List Para) :
    groupByKind (p :: ps) = match groupByKind ps with
      | (q :: g) :: rest => if q.kind = p.kind then (p :: q :: g) :: rest else [p] :: (q :: g) :: rest
      | _ => [[p]] := rfl

theorem groupByKind_spec (ps : List Para) :
    (groupByKind ps).flatten = ps ∧ ∀ g ∈ groupByKind ps, g ≠ [] ∧ ∀ q ∈ g, ∀ q' ∈ g, q.kind = q'.kind := by
  have single : ∀ p : Para, [p] ≠ [] ∧ ∀ q ∈ [p], ∀ q' ∈ [p], q.kind = q'.kind := fun p =>
    ⟨List.cons_ne_nil _ _, List.forall_mem_singleton.mpr (List.forall_mem_singleton.mpr rfl)⟩
  induction ps with
  | nil => exact ⟨rfl, nofun⟩
  | cons p ps ih =>
    obtain ⟨hflat, hgs⟩ := ih
    rw [groupByKind_cons]
    cases hg : groupByKind ps with
    | nil =>
      rw [hg] at hflat
      subst hflat
      exact ⟨rfl, List.forall_mem_singleton.mpr (single p)⟩
    | cons g0 rest =>
      rw [hg] at hflat hgs
      subst hflat
      obtain ⟨⟨hne, hg0⟩, hrest⟩ := List.forall_mem_cons.mp hgs
      cases g0 with
      | nil => exact absurd rfl hne
      | cons q g =>
        dsimp only
        split
        · next hk =>
          have key : ∀ z ∈ p :: q :: g, z.kind = p.kind :=
            List.forall_mem_cons.mpr ⟨rfl, fun z hz => (hg0 z hz q List.mem_cons_self).trans hk⟩
          exact ⟨rfl, List.forall_mem_cons.mpr
            ⟨⟨List.cons_ne_nil _ _, fun a ha b hb => (key a ha).trans (key b hb).symm⟩, hrest⟩⟩
        · exact ⟨rfl, List.forall_mem_cons.mpr ⟨single p, hgs⟩⟩

theorem groupByKind_props (ps : List Para) :
    ∀ g ∈ groupByKind ps, (∀ q ∈ g, q ∈ ps) ∧ (∀ q ∈ g, ∀ q' ∈ g, q.kind = q'.kind) := fun g hg =>
  ⟨fun q hq => by rw [← (groupByKind_spec ps).1]; exact List.mem_flatten.mpr ⟨g, hg, hq⟩,
   ((groupByKind_spec ps).2 g hg).2⟩

/-- `merge_contiguous_unknown_paragraphs` leaves a group as it is, unless it is a run of two or more catch-all
paragraphs with unknown fields only -/
def keepGroup (g : List Para) : Bool :=
  match g with
  | [] => true
  | p :: _ => p.kind ≠ .catchall || g.length = 1 || !g.all isAllUnknown

/-- what `merge_contiguous_unknown_paragraphs` puts in the place of one group -/
def mergeGroup (g : List Para) : Except PyExc (List Para) :=
  if keepGroup g then .ok g else (mergeRun g).map fun m => [m]

theorem mergeGroup_keep {g : List Para} (h : keepGroup g = true) : mergeGroup g = .ok g := by
  rw [mergeGroup, h, if_pos rfl]

theorem mergeGroup_merge {g : List Para} (h : keepGroup g = false) : mergeGroup g = (mergeRun g).map fun m => [m] := by
  rw [mergeGroup, h, if_neg Bool.false_ne_true]

theorem mergeUnknown_eq (ps : List Para) : mergeUnknown ps = (mapExcept mergeGroup (groupByKind ps)).map List.flatten := by
  refine foldl_eq_mapExcept mergeGroup _ (fun _ _ => rfl) (fun out g => ?_) _ []
  cases g with
  | nil => exact congrArg Except.ok (List.append_nil out).symm
  | cons p rest =>
    show (if keepGroup (p :: rest) then _ else _) = Except.map _ (if keepGroup (p :: rest) then _ else _)
    split
    · rfl
    · cases mergeRun (p :: rest) <;> rfl

theorem keepGroup_false {g : List Para} (h : keepGroup g = false) : ∃ p rest, g = p :: rest ∧ p.kind = .catchall := by
  cases g with
  | nil => cases h
  | cons p rest =>
    rw [keepGroup, Bool.or_eq_false_iff, Bool.or_eq_false_iff, decide_eq_false_iff_not, Decidable.not_not] at h
    exact ⟨p, rest, rfl, h.1.1⟩

theorem mergeGroup_inv {g g' : List Para} (h : mergeGroup g = .ok g') :
    g' = g ∨ ((∃ p rest, g = p :: rest ∧ p.kind = .catchall) ∧ ∃ m, mergeRun g = .ok m ∧ g' = [m]) := by
  cases hk : keepGroup g with
  | true => rw [mergeGroup_keep hk] at h; exact Or.inl (Except.ok.inj h).symm
  | false =>
    rw [mergeGroup_merge hk] at h
    obtain ⟨m, hm, rfl⟩ := map_eq_ok h
    exact Or.inr ⟨keepGroup_false hk, m, hm, rfl⟩

theorem mergeGroup_ok (g : List Para) (hg : ∀ q ∈ g, Good q) (hk : ∀ q ∈ g, ∀ q' ∈ g, q.kind = q'.kind) :
    ∃ g', mergeGroup g = .ok g' ∧ ∀ p ∈ g', FoldInv p := by
  cases hkeep : keepGroup g with
  | true => exact ⟨g, mergeGroup_keep hkeep, fun p hp => good_foldInv (hg p hp)⟩
  | false =>
    obtain ⟨p, rest, rfl, hpk⟩ := keepGroup_false hkeep
    obtain ⟨m, hm, hmi⟩ := mergeRun_ok (p :: rest) fun q hq => ⟨hg q hq, (hk q hq p List.mem_cons_self).trans hpk⟩
    exact ⟨[m], by rw [mergeGroup_merge hkeep, hm]; rfl, List.forall_mem_singleton.mpr hmi⟩

theorem mergeUnknown_ok (ps : List Para) (h : ∀ p ∈ ps, Good p) :
    ∃ out, mergeUnknown ps = .ok out ∧ ∀ p ∈ out, FoldInv p := by
  obtain ⟨gs, hgs, hfi⟩ := mapExcept_ok mergeGroup (fun g' => ∀ p ∈ g', FoldInv p) (groupByKind ps) fun g hg =>
    mergeGroup_ok g (fun q hq => h q ((groupByKind_props ps g hg).1 q hq)) (groupByKind_props ps g hg).2
  refine ⟨gs.flatten, by rw [mergeUnknown_eq, hgs]; rfl, fun p hp => ?_⟩
  obtain ⟨g', hg', hp⟩ := List.mem_flatten.mp hp
  exact hfi g' hg' p hp

/-! ### the fold never raises -/

/-- the test of `fold_contiguous_empty_license_followed_by_unknown`: an empty license paragraph, then a catch-all
paragraph whose dictionary is a single non-empty `unknown` value -/
def foldCond (p1 p2 : Para) : Bool :=
  p1.kind = .license && licenseParaIsEmpty p1 && p2.kind = .catchall &&
    (toDict p2).map (·.1) = [unknownName] && (match toDict p2 with | [(_, v)] => dvTruthy v | _ => false)

theorem foldLoop_unfold (p1 p2 : Para) (rest : List Para) (b : Bool) :
    foldLoop (p1 :: p2 :: rest) b =
      if b then foldLoop (p2 :: rest) false
      else if foldCond p1 p2 then
        (match toDict p2, p2.lines.lookup unknownName with
         | [(_, .s text)], some rng =>
           let p1' := { setLicense p1 [] (some text) with lines := lset p1.lines "license".toList rng }
           match foldLoop (p2 :: rest) true with
           | .error e => .error e
           | .ok (out, fp) => .ok (p1' :: out, fp)
         | _, _ => .error .keyError)
      else
        (match foldLoop (p2 :: rest) false with
         | .error e => .error e
         | .ok (out, fp) => .ok (p1 :: out, fp)) := by
  rw [foldLoop]
  rfl

theorem foldCond_inv {p1 p2 : Para} (h : foldCond p1 p2 = true) :
    p1.kind = .license ∧ licenseParaIsEmpty p1 = true ∧ p2.kind = .catchall ∧
      ∃ text, toDict p2 = [(unknownName, XV.s text)] ∧ text ≠ [] := by
  simp only [foldCond, Bool.and_eq_true, decide_eq_true_eq] at h
  obtain ⟨⟨⟨⟨hk, he⟩, hk2⟩, hkeys⟩, htr⟩ := h
  refine ⟨hk, he, hk2, ?_⟩
  generalize toDict p2 = d at hkeys htr ⊢
  match d, hkeys, htr with
  | [(k, .s text)], hkeys, htr =>
    have hk : k = unknownName := (List.cons.inj hkeys).1
    exact ⟨text, by rw [hk], List.isEmpty_eq_false_iff.mp (by simpa [dvTruthy] using htr)⟩
  | [(_, .emptyList)], _, htr => cases htr
  | [], hkeys, _ => cases hkeys
  | _ :: _ :: _, hkeys, _ => cases (List.cons.inj hkeys).2

theorem foldLoop_skip (p1 p2 : Para) (rest : List Para) :
    foldLoop (p1 :: p2 :: rest) true = foldLoop (p2 :: rest) false := by
  rw [foldLoop_unfold]; rfl

theorem foldLoop_keep {p1 p2 : Para} (h : foldCond p1 p2 = false) (rest : List Para) :
    foldLoop (p1 :: p2 :: rest) false = (foldLoop (p2 :: rest) false).map fun r => (p1 :: r.1, r.2) := by
  rw [foldLoop_unfold, h]
  cases foldLoop (p2 :: rest) false <;> rfl

theorem foldLoop_fold {p1 p2 : Para} (h : foldCond p1 p2 = true) {text : Str}
    (hd : toDict p2 = [(unknownName, .s text)]) (rest : List Para) :
    foldLoop (p1 :: p2 :: rest) false = match p2.lines.lookup unknownName with
      | none => .error .keyError
      | some rng => (foldLoop (p2 :: rest) true).map fun r =>
          ({ setLicense p1 [] (some text) with lines := lset p1.lines "license".toList rng } :: r.1, r.2) := by
  rw [foldLoop_unfold, h, hd]
  cases p2.lines.lookup unknownName with
  | none => rfl
  | some rng => cases foldLoop (p2 :: rest) true <;> rfl

theorem foldLoop_cons_inv {p1 p2 : Para} {rest : List Para} {b : Bool} {out : List Para} {fp : Bool}
    (h : foldLoop (p1 :: p2 :: rest) b = .ok (out, fp)) :
    (b = true ∧ foldLoop (p2 :: rest) false = .ok (out, fp)) ∨
    (b = false ∧ foldCond p1 p2 = false ∧ ∃ out2, foldLoop (p2 :: rest) false = .ok (out2, fp) ∧ out = p1 :: out2) ∨
    (b = false ∧ foldCond p1 p2 = true ∧ ∃ text rng out2, toDict p2 = [(unknownName, XV.s text)] ∧
      p2.lines.lookup unknownName = some rng ∧ foldLoop (p2 :: rest) true = .ok (out2, fp) ∧
      out = { setLicense p1 [] (some text) with lines := lset p1.lines "license".toList rng } :: out2) := by
  cases b with
  | true => exact Or.inl ⟨rfl, foldLoop_skip p1 p2 rest ▸ h⟩
  | false =>
    right
    cases hc : foldCond p1 p2 with
    | false =>
      rw [foldLoop_keep hc] at h
      obtain ⟨⟨out2, fp2⟩, hrec, he⟩ := map_eq_ok h
      cases he
      exact Or.inl ⟨rfl, rfl, out2, hrec, rfl⟩
    | true =>
      obtain ⟨_, _, _, text, hd, _⟩ := foldCond_inv hc
      rw [foldLoop_fold hc hd] at h
      cases hl : p2.lines.lookup unknownName with
      | none => rw [hl] at h; cases h
      | some rng =>
        rw [hl] at h
        obtain ⟨⟨out2, fp2⟩, hrec, he⟩ := map_eq_ok h
        cases he
        exact Or.inr ⟨rfl, rfl, text, rng, out2, hd, rfl, hrec, rfl⟩

/-- the line range the fold reads is there -/
theorem foldInv_range {p : Para} (hfi : FoldInv p) (hk : p.kind = .catchall) {text : Str}
    (hd : toDict p = [(unknownName, .s text)]) : ∃ rng, p.lines.lookup unknownName = some rng := by
  have hlk : (toDict p).lookup unknownName = some (XV.s text) := by rw [hd]; exact List.lookup_cons_self
  rw [toDict_eq, hfi.1 hk] at hlk
  rcases foldl_dstep_lookup_s _ _ _ _ hlk with ⟨v, hv⟩ | hbad
  · exact lookup_some_of_mem _ _ (hfi.2 _ _ hv)
  · cases hbad

theorem foldLoop_ok (ps : List Para) (h : ∀ p ∈ ps, FoldInv p) (b : Bool) : ∃ r, foldLoop ps b = .ok r := by
  induction ps generalizing b with
  | nil => exact ⟨_, rfl⟩
  | cons p1 rest ih =>
    cases rest with
    | nil => exact ⟨_, rfl⟩
    | cons p2 rest =>
      have ih' := ih fun p hp => h p (List.mem_cons_of_mem _ hp)
      cases b with
      | true => rw [foldLoop_skip]; exact ih' false
      | false =>
        cases hc : foldCond p1 p2 with
        | false =>
          obtain ⟨r, hr⟩ := ih' false
          rw [foldLoop_keep hc, hr]; exact ⟨_, rfl⟩
        | true =>
          obtain ⟨_, _, hk2, text, hd, _⟩ := foldCond_inv hc
          obtain ⟨rng, hrng⟩ := foldInv_range (h p2 (by simp)) hk2 hd
          obtain ⟨r, hr⟩ := ih' true
          rw [foldLoop_fold hc hd, hrng, hr]; exact ⟨_, rfl⟩

theorem foldLicense_eq (ps : List Para) :
    foldLicense ps = if ps.length ≤ 2 then .ok ps else
      (foldLoop ps false).map fun r => if r.2 then r.1 else r.1 ++ ps.getLast?.toList := by
  unfold foldLicense
  split
  · rfl
  · cases foldLoop ps false with
    | error e => rfl
    | ok r =>
      obtain ⟨out, fp⟩ := r
      cases fp
      · cases ps.getLast? <;> simp [Except.map]
      · rfl

theorem foldLicense_short {ps : List Para} (h : ps.length ≤ 2) : foldLicense ps = .ok ps := by
  rw [foldLicense_eq, if_pos h]

theorem foldLicense_of_loop {ps out : List Para} {fp : Bool} (hl : 2 < ps.length)
    (h : foldLoop ps false = .ok (out, fp)) :
    foldLicense ps = .ok (if fp then out else out ++ ps.getLast?.toList) := by
  rw [foldLicense_eq, if_neg (Nat.not_le_of_lt hl), h]; rfl

theorem foldLicense_inv {ps ps' : List Para} (h : foldLicense ps = .ok ps') :
    (ps.length ≤ 2 ∧ ps' = ps) ∨ (¬ ps.length ≤ 2 ∧ ∃ last out fp, ps.getLast? = some last ∧
      foldLoop ps false = .ok (out, fp) ∧ ps' = if fp then out else out ++ [last]) := by
  by_cases hl : ps.length ≤ 2
  · rw [foldLicense_short hl] at h
    exact Or.inl ⟨hl, (Except.ok.inj h).symm⟩
  · have hne : ps ≠ [] := fun e => hl (by rw [e]; exact Nat.zero_le _)
    cases hrec : foldLoop ps false with
    | error e => rw [foldLicense_eq, if_neg hl, hrec] at h; cases h
    | ok r =>
      rw [foldLicense_of_loop (Nat.lt_of_not_le hl) hrec, List.getLast?_eq_some_getLast hne] at h
      exact Or.inr ⟨hl, _, r.1, r.2, List.getLast?_eq_some_getLast hne, rfl, (Except.ok.inj h).symm⟩

theorem foldLicense_ok (ps : List Para) (h : ∀ p ∈ ps, FoldInv p) : ∃ out, foldLicense ps = .ok out := by
  by_cases hl : ps.length ≤ 2
  · exact ⟨ps, foldLicense_short hl⟩
  · obtain ⟨⟨out, fp⟩, hr⟩ := foldLoop_ok ps h false
    exact ⟨_, foldLicense_of_loop (by omega) hr⟩

theorem fromFieldsGroups_of {groups : List (List Fld)} {ps ps' : List Para}
    (h1 : mapExcept (fun g => fromFields (classify g) g) groups = .ok ps) (h2 : mergeUnknown ps = .ok ps') :
    fromFieldsGroups groups = foldLicense ps' := by
  simp only [fromFieldsGroups, h1, h2]

theorem fromFieldsGroups_inv {groups : List (List Fld)} {ps : List Para} (h : fromFieldsGroups groups = .ok ps) :
    ∃ ps0 ps1, mapExcept (fun g => fromFields (classify g) g) groups = .ok ps0 ∧ mergeUnknown ps0 = .ok ps1 ∧
      foldLicense ps1 = .ok ps := by
  unfold fromFieldsGroups at h
  cases h0 : mapExcept (fun g => fromFields (classify g) g) groups with
  | error e => rw [h0] at h; cases h
  | ok ps0 =>
    rw [h0] at h
    dsimp only at h
    cases h1 : mergeUnknown ps0 with
    | error e => rw [h1] at h; cases h
    | ok ps1 => rw [h1] at h; exact ⟨ps0, ps1, rfl, h1, h⟩

/-- the error branch is dead (`fromFields_builtPara`) -/
def builtPara (g : List Fld) : Para :=
  match fromFields (classify g) g with
  | .ok p => p
  | .error _ => ⟨.catchall, [], [], []⟩

theorem builtPara_of_ok {g : List Fld} {p : Para} (h : fromFields (classify g) g = .ok p) : builtPara g = p := by
  rw [builtPara, h]

theorem fromFields_builtPara (g : List Fld) : fromFields (classify g) g = .ok (builtPara g) := by
  obtain ⟨p, hp⟩ := fromFields_ok (classify g) g
  rw [builtPara_of_ok hp, hp]

/-- `from_fields` never raises, so the first stage of `from_fields_groups` is a map -/
theorem firstStage_eq (groups : List (List Fld)) :
    mapExcept (fun g => fromFields (classify g) g) groups = .ok (groups.map builtPara) :=
  mapExcept_eq_map _ _ _ fun g _ => fromFields_builtPara g

theorem fromText_ok (t : Str) : ∃ ps, fromText t = .ok ps := by
  have hg : ∀ p ∈ (parse t).map builtPara, Good p := List.forall_mem_map.mpr fun g _ => by
    obtain ⟨p, hp, hg⟩ := fromFields_good (classify g) g
    exact builtPara_of_ok hp ▸ hg
  obtain ⟨out, ho, hf⟩ := mergeUnknown_ok _ hg
  rw [fromText, fromFieldsGroups_of (firstStage_eq _) ho]
  exact foldLicense_ok out hf

/-! ### rendering (the model leaves non-ASCII field names outside) -/

theorem baseDumps_cases (p : Para) : (∃ s, baseDumps p = .ok s) ∨ baseDumps p = .error .outOfModel := by
  unfold baseDumps
  simp only
  split
  · exact Or.inr rfl
  · exact Or.inl ⟨_, rfl⟩

theorem paraDumps_cases (p : Para) : (∃ s, paraDumps p = .ok s) ∨ paraDumps p = .error .outOfModel := by
  unfold paraDumps
  split
  · split
    · exact Or.inl ⟨_, rfl⟩
    · exact baseDumps_cases p
  · split
    · exact Or.inl ⟨_, rfl⟩
    · exact baseDumps_cases p
  · exact baseDumps_cases p

theorem docDumps_cases (ps : List Para) : (∃ s, docDumps ps = .ok s) ∨ docDumps ps = .error .outOfModel := by
  unfold docDumps
  rcases mapExcept_cases paraDumps .outOfModel ps (fun p _ => paraDumps_cases p) with ⟨ds, h⟩ | h
  · rw [h]; exact Or.inl ⟨_, rfl⟩
  · rw [h]; exact Or.inr rfl

/-- **C07** — for every text the model of `from_text` returns a copyright object (with its dictionary forms and both
validity checks, which are total functions), and rendering it returns a string or leaves the model (`OutOfModel`:
non-ASCII field names). The other clauses of `holdsOn` (the three parser entry points, equal results of a second
evaluation) are constants of `Props.C07.model`: for those only the library is observed -/
theorem sound (t : Str) : holdsOn t (model t) = true := by
  obtain ⟨ps, hps⟩ := fromText_ok t
  unfold holdsOn model
  simp only [hps, Props.isOk, Bool.true_and, Bool.and_true]
  rcases docDumps_cases ps with ⟨s, hs⟩ | hs
  · rw [hs]
  · rw [hs]; rfl

end Props.C07
