/-
C10 — the line-number shift behind the shift clause.
-/
import DebInspector.Props.C10
import DebInspector.Proofs.Deb822
import DebInspector.Proofs.LinesAscii

namespace Props.C10
open Py Model.Deb822

theorem splitLinesAscii_blank_prefix (k : Nat) (t : Str) :
    splitLinesAscii (List.replicate k '\n' ++ t) = List.replicate k [] ++ splitLinesAscii t := by
  induction k with
  | zero => rfl
  | succ k ih => exact (Proofs.LinesAscii.splitLinesAscii_line [] _ ⟨nofun, nofun⟩).trans (congrArg ([] :: ·) ih)

def shiftNL (k : Nat) (l : NL) : NL := ⟨l.num + k, l.val⟩

theorem numberFrom_shift (n k : Nat) (ls : List Str) :
    numberFrom (n + k) ls = (numberFrom n ls).map (shiftNL k) := by
  induction ls generalizing n with
  | nil => rfl
  | cons l ls ih =>
    simp only [numberFrom, List.map_cons, shiftNL]
    rw [Nat.add_right_comm n k 1, ih]

/-- **prepending `k` blank lines shifts the number of every source line by exactly `k`**: the source
lines of the new text are `k` empty lines numbered `1..k` followed by the old lines renumbered `+k` -/
theorem linesFromText_shift (k : Nat) (t : Str) :
    linesFromText (List.replicate k '\n' ++ t) =
      numberFrom 1 (List.replicate k []) ++ (linesFromText t).map (shiftNL k) := by
  unfold linesFromText
  rw [splitLinesAscii_blank_prefix, Proofs.Deb822.numberFrom_append, List.length_replicate, numberFrom_shift]

/-- non-vacuity: a merged block of free text in the middle of a file and a folded license -/
example : (model ⟨"Files: *\nCopyright: x\n\njunk one\njunk two\n".toList, 0⟩).base =
    .ok [⟨.files, [("files".toList, .s "*".toList), ("copyright".toList, .s "x".toList),
                   ("license".toList, .s []), ("comment".toList, .s [])],
          [("files".toList, (1, 1)), ("copyright".toList, (2, 2))]⟩,
         ⟨.catchall, [("unknown".toList, .s "junk one\n junk two".toList)], [("unknown".toList, (4, 5))]⟩] := by
  -- the kernel would otherwise encode each literal to UTF-8 and decode it again
  repeat rw [String.toList_ofList]
  decide +kernel
example : holdsOn ⟨"Files: *\nLicense:\n\n some text\n more\n".toList, 3⟩
    (model ⟨"Files: *\nLicense:\n\n some text\n more\n".toList, 3⟩) = true := by
  rw [String.toList_ofList]
  decide +kernel

end Props.C10
