/-
C04 — property theorems (the lemmas live in `Proofs/VersionPrint.lean`).
-/
import DebInspector.Props.C04
import DebInspector.Proofs.VersionPrint

namespace Props.C04
open Py Spec Model.Version Proofs.VersionParse Proofs.VersionPrint

theorem epochPrefix_eq (e : Nat) : Props.C04.epochPrefix e = Proofs.VersionPrint.epochPrefix e := rfl

/-- round trip: the printed form of an accepted version is accepted and parses to an equal version -/
theorem roundtrip (s : Str) (v : Ver) (h : fromString s = .ok v) : fromString (toStr v) = .ok v :=
  fromString_toStr s v h

/-- printing is idempotent: printing the re-parsed version gives the same text -/
theorem idempotent (s : Str) (v v2 : Ver) (h : fromString s = .ok v) (h2 : fromString (toStr v) = .ok v2) :
    toStr v2 = toStr v := by
  rw [fromString_toStr s v h] at h2; cases h2; rfl

/-- the printed form is the normalised epoch, the upstream, and the revision unless it is "0" -/
theorem printed_shape (v : Ver) : shape (tup v) (toStr v) = true := by
  unfold shape toStr tup
  simp only [verPrefix_eq, epochPrefix_eq]
  split
  · simp
  · rename_i hc
    simp only [Bool.or_eq_true, Bool.not_eq_true', not_or, Bool.not_eq_false, decide_eq_true_eq,
      ne_eq, Decidable.not_not] at hc
    simp [hc.1.1]

/-- **C04**: for every string, if it is accepted then printing and re-parsing gives the same
version, printing again gives the same text, and the printed text has the allowed shape -/
theorem sound (s : Str) : holdsOn s (model s) = true := by
  unfold holdsOn model
  cases h : fromString s with
  | error e => rfl
  | ok v =>
    simp only [fromString_toStr s v h]
    have hsplit := (fromString_ok s v h).2
    simp only [Bool.and_eq_true]
    refine ⟨⟨?_, printed_shape v⟩, ?_⟩
    · simp [tup, hsplit]
    · simp

/-- what the model prints for an accepted string, when the printed form is accepted again -/
def printed (s : Str) : Option Str :=
  match model s with
  | .ok (_, p, .ok _) => some p
  | _ => none

/-- non-vacuity: the two families on which leaving out a revision `0` would change the parse, and epoch normalisation -/
example : printed "1-2-0".toList = some "1-2-0".toList := by
  -- the kernel would otherwise encode the literal to UTF-8 and decode it again
  rw [String.toList_ofList]
  decide +kernel
example : printed "0:2+-0".toList = some "2+-0".toList := by
  rw [String.toList_ofList, String.toList_ofList]
  decide +kernel
example : printed "01:1.0-0".toList = some "1:1.0".toList := by
  rw [String.toList_ofList, String.toList_ofList]
  decide +kernel
example : printed " 0:1.0-1 ".toList = some "1.0-1".toList := by
  rw [String.toList_ofList, String.toList_ofList]
  decide +kernel

end Props.C04
