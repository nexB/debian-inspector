/-
C06 — `tracking_sound`: the line-tracking parser on every well-formed document (K3 hypothesis on names);
lemmas about the scanners of the header-style parser model.
-/
import DebInspector.Props.C06
import DebInspector.Proofs.SplitJoin
import DebInspector.Proofs.Deb822
import DebInspector.Proofs.LinesAscii

namespace Props.C06

/-! ## scanners of the header-style parser -/

section
open Py Model.Email

theorem splitKeepEndsAux_flatten (t cur : Str) (cr : Bool) :
    (splitKeepEndsAux t cur cr).flatten = cur.reverse ++ t := by
  induction t generalizing cur cr with
  | nil =>
    simp only [splitKeepEndsAux]
    split
    · rename_i h; have : cur = [] := by simpa using h
      subst this; rfl
    · simp
  | cons c rest ih =>
    cases cr with
    | true =>
      simp only [splitKeepEndsAux, if_true]
      split
      · simp [ih]
      · split <;> simp [ih]
    | false =>
      simp only [splitKeepEndsAux, Bool.false_eq_true, if_false]
      split
      · simp [ih]
      · split <;> simp [ih]

theorem splitKeepEnds_flatten (t : Str) : (splitKeepEnds t).flatten = t := by
  simpa [splitKeepEnds] using splitKeepEndsAux_flatten t [] false

theorem dropWhileSpTab_suffix (s : Str) : ∃ pre, s = pre ++ dropWhileSpTab s := by
  induction s with
  | nil => exact ⟨[], rfl⟩
  | cons c cs ih =>
    simp only [dropWhileSpTab]
    split
    · obtain ⟨pre, h⟩ := ih
      exact ⟨c :: pre, by simp [← h]⟩
    · exact ⟨[], rfl⟩

theorem skipBlankLines_suffix (n : Nat) (s : Str) : ∃ pre, s = pre ++ skipBlankLines n s := by
  induction n generalizing s with
  | zero => exact ⟨[], rfl⟩
  | succ n ih =>
    simp only [skipBlankLines]
    obtain ⟨pre, h⟩ := dropWhileSpTab_suffix s
    cases hd : dropWhileSpTab s with
    | nil => exact ⟨[], rfl⟩
    | cons c rest =>
      by_cases hc : c = '\n'
      · subst hc
        simp only
        obtain ⟨pre2, h2⟩ := ih rest
        refine ⟨pre ++ '\n' :: pre2, ?_⟩
        rw [hd] at h
        rw [h]
        simp [← h2]
      · refine ⟨[], ?_⟩
        simp only [List.nil_append]
        split
        · rename_i heq; simp at heq; exact absurd heq.1 hc
        · rfl

end

/-! ## the line-tracking parser on well-formed documents -/

open Py Model.Deb822 Proofs.LinesAscii Proofs.Deb822

/-! ### the source lines of a rendered document -/

theorem joinNl_eq_join (ls : List Str) : joinNl ls = join ['\n'] ls :=
  eq_join rfl (fun _ => rfl) (fun _ _ _ => rfl) ls

theorem joinNl_nl (l : Str) (ls : List Str) :
    joinNl (l :: ls) ++ ['\n'] = (l :: ls).flatMap fun x => x ++ ['\n'] := by
  induction ls generalizing l with
  | nil => simp [joinNl]
  | cons m ms ih => rw [List.flatMap_cons, ← ih m]; simp [joinNl]

theorem splitLinesAscii_joinNl (l : Str) (ls : List Str) (h : ∀ x ∈ l :: ls, NoT x)
    (hlast : (l :: ls).getLast (by simp) ≠ []) : splitLinesAscii (joinNl (l :: ls)) = l :: ls := by
  induction ls generalizing l with
  | nil => simpa [joinNl] using splitLinesAscii_single l (h l (by simp)) (by simpa using hlast)
  | cons m ms ih =>
    have e : joinNl (l :: m :: ms) = l ++ '\n' :: joinNl (m :: ms) := by simp [joinNl]
    rw [e, splitLinesAscii_line l _ (h l (by simp)), ih m (fun x hx => h x (by simp [hx])) (by simpa using hlast)]

def paraLines (p : Para) : List Str := p.fields.flatMap fieldLines

def docLines : List Para → List Str
  | [] => []
  | [p] => paraLines p
  | p :: q :: rest => paraLines p ++ [] :: p.sep ++ docLines (q :: rest)

theorem renderPara_eq (p : Para) : renderPara p = joinNl (paraLines p) := rfl

theorem render_cons_cons (p q : Para) (rest : List Para) (fin : Bool) (hne : paraLines p ≠ []) :
    render (p :: q :: rest) fin =
      ((paraLines p ++ [] :: p.sep).flatMap fun x => x ++ ['\n']) ++ render (q :: rest) fin := by
  obtain ⟨l, ls, hpl⟩ := List.exists_cons_of_ne_nil hne
  rw [List.flatMap_append, hpl, ← joinNl_nl, render, renderPara_eq, hpl]
  simp

theorem lines_render (paras : List Para) (fin : Bool)
    (hp : ∀ p ∈ paras, paraLines p ≠ [] ∧ (∀ l ∈ paraLines p, NoT l ∧ l ≠ []) ∧ ∀ l ∈ p.sep, NoT l) :
    splitLinesAscii (render paras fin) = docLines paras := by
  induction paras with
  | nil => rfl
  | cons p rest ih =>
    obtain ⟨hne, hl, hs⟩ := hp p (by simp)
    cases rest with
    | nil =>
      obtain ⟨l, ls, hpl⟩ := List.exists_cons_of_ne_nil hne
      have hl' : ∀ x ∈ l :: ls, NoT x := fun x hx => (hl x (hpl ▸ hx)).1
      rw [render, docLines, renderPara_eq, hpl]
      cases fin with
      | true =>
        have := splitLinesAscii_seps (l :: ls) [] hl'
        rw [List.append_nil, ← joinNl_nl] at this
        exact this.trans (List.append_nil _)
      | false =>
        rw [if_neg Bool.false_ne_true, List.append_nil]
        exact splitLinesAscii_joinNl l ls hl' (hl _ (by rw [hpl]; exact List.getLast_mem _)).2
    | cons q rest' =>
      rw [render_cons_cons p q rest' fin hne, splitLinesAscii_seps _ _ (fun x hx => ?_),
        ih fun x hx => hp x (List.mem_cons_of_mem _ hx), docLines]
      rcases List.mem_append.mp hx with hx | hx
      · exact (hl x hx).1
      · rcases List.mem_cons.mp hx with rfl | hx
        · exact ⟨by simp, by simp⟩
        · exact hs x hx

/-! ### the loop on the lines of a well-formed document -/

/-- the field the loop builds from a declaration line and continuation lines, numbered from `k` -/
def builtField (name value : Str) (conts : List Str) (k : Nat) : Fld :=
  ⟨name, ⟨k, value⟩ :: numberFrom (k + 1) conts⟩

theorem go_conts (done : List Fld) (cur : Fld) (cs : List Str) (k : Nat) (rest : List NL)
    (hc : ∀ c ∈ cs, isCont c = true ∧ lastP isSpace c = false) :
    go (some (done, cur)) (numberFrom k cs ++ rest) =
      go (some (done, { cur with lines := cur.lines ++ numberFrom k cs })) rest := by
  induction cs generalizing cur k with
  | nil => simp [numberFrom]
  | cons c cs ih =>
    obtain ⟨hcont, hlast⟩ := hc c (by simp)
    have hr : rstrip c = c := rstrip_of_last c (lastP_false_of (cont_ne_nil hcont) hlast)
    simp only [numberFrom, List.cons_append]
    rw [go_cont_step _ _ _ (cont_not_blank c hcont) hcont]
    simp only [hr, addLine]
    rw [ih _ _ (fun x hx => hc x (by simp [hx]))]
    simp [List.append_assoc]

/-! ### fields, paragraphs, documents -/

def declLine (f : Field) : Str := f.name ++ ':' :: f.sp ++ f.value

theorem fieldLines_eq (f : Field) : fieldLines f = declLine f :: f.conts := rfl

theorem declLine_eq (f : Field) : declLine f = f.name ++ ':' :: (f.sp ++ f.value) := by
  simp [declLine]

/-- the name `Deb822Field.from_line` gives the field: lower-cased, `licence` respelled -/
def pname (f : Field) : Str := if lowerAscii f.name = licence then license else lowerAscii f.name

/-- what the loop needs to know about a well-formed field -/
structure FieldFacts (f : Field) : Prop where
  decl : isDecl (declLine f) = true
  notBlank : isBlank (declLine f) = false
  notCont : isCont (declLine f) = false
  fromLine : ∀ k, Model.Deb822.fromLine ⟨k, declLine f⟩ = ⟨pname f, [⟨k, f.value⟩]⟩
  conts : ∀ c ∈ f.conts, isCont c = true ∧ lastP isSpace c = false
  valueBlank : isBlank f.value = f.value.isEmpty

/-- the entry of `expectedTracking` for `f`, with `pname` for the name -/
def expField (f : Field) : Str × List Str :=
  (pname f, if f.value.isEmpty && f.conts.isEmpty then [] else f.value :: f.conts)

def built (f : Field) (k : Nat) : Fld := builtField (pname f) f.value f.conts k

def obsFld (f : Fld) : Str × List Str := (f.name, f.lines.map (·.val))

theorem rstripLines_all_nonblank (ls : List NL) (h : ∀ l ∈ ls, isBlank l.val = false) : rstripLines ls = ls := by
  induction ls with
  | nil => rfl
  | cons a as ih =>
    simp only [rstripLines, ih (fun l hl => h l (by simp [hl]))]
    cases as with
    | nil => simp [h a (by simp)]
    | cons b bs => rfl

theorem clean_built (f : Field) (hf : FieldFacts f) (k : Nat) :
    obsFld { built f k with lines := rstripLines (built f k).lines } = expField f := by
  unfold built builtField expField obsFld
  simp only
  rcases List.eq_nil_or_concat f.conts with hc | ⟨init, last, hc⟩
  · simp only [hc, numberFrom, List.isEmpty_nil, Bool.and_true, rstripLines, hf.valueBlank]
    cases f.value.isEmpty <;> rfl
  · -- the last line is a continuation line, hence not blank: nothing is trimmed
    have hlast : isBlank last = false := cont_not_blank last (hf.conts last (by simp [hc])).1
    have e : (⟨k, f.value⟩ : NL) :: numberFrom (k + 1) f.conts =
        ((⟨k, f.value⟩ : NL) :: numberFrom (k + 1) init) ++ [⟨k + 1 + init.length, last⟩] := by
      rw [hc, List.concat_eq_append, numberFrom_append]; rfl
    rw [e, rstripLines_nonblank_last _ _ hlast, ← e]
    simp [hc, numberFrom_vals]

theorem go_field (f : Field) (hf : FieldFacts f) (k : Nat) (st : St) (rest : List NL) :
    go st (numberFrom k (fieldLines f) ++ rest) = go (some (closed st, built f k)) rest := by
  rw [fieldLines_eq, numberFrom, List.cons_append, go_decl_step st _ _ hf.decl, hf.fromLine k,
    go_conts _ _ _ _ _ hf.conts]
  rfl

def builtFields : List Field → Nat → List Fld
  | [], _ => []
  | f :: fs, k => built f k :: builtFields fs (k + (fieldLines f).length)

def linesCount (fs : List Field) : Nat := (fs.flatMap fieldLines).length

theorem go_fields (f : Field) (fs : List Field) (hf : ∀ g ∈ f :: fs, FieldFacts g) (st : St) (k : Nat) (rest : List NL) :
    ∃ s, go st (numberFrom k ((f :: fs).flatMap fieldLines) ++ rest) = go (some s) rest ∧
      s.1 ++ [s.2] = closed st ++ builtFields (f :: fs) k := by
  induction fs generalizing f st k with
  | nil => exact ⟨_, by simpa using go_field f (hf f (by simp)) k st rest, rfl⟩
  | cons g gs ih =>
    obtain ⟨s, hgo, hs⟩ := ih g (fun x hx => hf x (List.mem_cons_of_mem _ hx)) (some (closed st, built f k))
      (k + (fieldLines f).length)
    refine ⟨s, ?_, by rw [hs, closed, List.append_assoc]; rfl⟩
    rw [List.flatMap_cons, numberFrom_append, List.append_assoc, go_field f (hf f (by simp)), hgo]

theorem clean_builtFields (fs : List Field) (hf : ∀ f ∈ fs, FieldFacts f) (k : Nat) :
    (clean (builtFields fs k)).map obsFld = fs.map expField := by
  induction fs generalizing k with
  | nil => rfl
  | cons f fs ih =>
    simp only [builtFields, clean, List.map_cons] at ih ⊢
    rw [clean_built f (hf f (by simp)) k]
    congr 1
    exact ih (fun x hx => hf x (by simp [hx])) _

theorem go_blank_lines (sep : List Str) (hs : ∀ l ∈ sep, isBlank l = true) (k : Nat) (rest : List NL) :
    go none (numberFrom k sep ++ rest) = go none rest := by
  induction sep generalizing k with
  | nil => simp [numberFrom]
  | cons l ls ih =>
    simp only [numberFrom, List.cons_append]
    rw [go_blank_none _ _ (hs l (by simp)), ih (fun x hx => hs x (by simp [hx]))]

theorem go_sep (s : List Fld × Fld) (l : Str) (sep : List Str) (hs : ∀ x ∈ l :: sep, isBlank x = true) (k : Nat)
    (rest : List NL) (hr : ∀ n ∈ rest.head?, isDecl n.val = true) :
    go (some s) (numberFrom k (l :: sep) ++ rest) = flush (some s) ++ go none rest := by
  rw [numberFrom, List.cons_append, go_blank_break s _ _ (hs l (by simp)),
    go_blank_lines sep (fun x hx => hs x (by simp [hx]))]
  -- left: the look-ahead of `go_blank_break`: the line after `l` is blank or a declaration
  cases sep with
  | nil => exact fun n hn => .inl (hr n hn)
  | cons m ms => exact fun n hn => .inr (Option.mem_some.mp hn ▸ hs m (by simp))

/-- what the loop needs to know about a well-formed paragraph and the lines after it -/
structure ParaFacts (p : Para) : Prop where
  ne : p.fields ≠ []
  fields : ∀ f ∈ p.fields, FieldFacts f
  sep : ∀ l ∈ p.sep, isBlank l = true

def obsOut (ps : List (List Fld)) : Groups := ps.map fun g => g.map obsFld

theorem docLines_head (q : Para) (rest : List Para) (hq : ParaFacts q) (k : Nat) :
    ∀ n ∈ (numberFrom k (docLines (q :: rest))).head?, isDecl n.val = true := by
  obtain ⟨f, fs, hfs⟩ := List.exists_cons_of_ne_nil hq.ne
  have : ∃ tl, docLines (q :: rest) = declLine f :: tl := by
    cases rest <;> simp [docLines, paraLines, hfs, fieldLines_eq]
  obtain ⟨tl, htl⟩ := this
  rw [htl]
  exact fun n hn => Option.mem_some.mp hn ▸ (hq.fields f (by simp [hfs])).decl

/-- **the loop on the lines of a well-formed document** gives one group per paragraph with exactly
its fields -/
theorem go_doc (paras : List Para) (hp : ∀ p ∈ paras, ParaFacts p) (k : Nat) :
    obsOut (go none (numberFrom k (docLines paras))) = paras.map fun p => p.fields.map expField := by
  induction paras generalizing k with
  | nil => rfl
  | cons p rest ih =>
    have pf := hp p (by simp)
    obtain ⟨f, fs, hfs⟩ := List.exists_cons_of_ne_nil pf.ne
    have hgroup : ∀ s : List Fld × Fld, s.1 ++ [s.2] = closed none ++ builtFields (f :: fs) k →
        obsOut (flush (some s)) = [p.fields.map expField] := by
      intro s hs
      rw [flush_some, hs, hfs]
      exact congrArg (· :: []) (clean_builtFields (f :: fs) (hfs ▸ pf.fields) k)
    cases rest with
    | nil =>
      obtain ⟨s, hgo, hs⟩ := go_fields f fs (hfs ▸ pf.fields) none k []
      rw [docLines, paraLines, hfs, ← List.append_nil (numberFrom _ _), hgo, go_nil]
      exact hgroup s hs
    | cons q rest' =>
      obtain ⟨s, hgo, hs⟩ := go_fields f fs (hfs ▸ pf.fields) none k
        (numberFrom (k + ((f :: fs).flatMap fieldLines).length) ([] :: p.sep ++ docLines (q :: rest')))
      rw [docLines, paraLines, hfs, List.append_assoc, numberFrom_append, hgo, numberFrom_append,
        go_sep s [] p.sep (List.forall_mem_cons.mpr ⟨rfl, pf.sep⟩) _ _ (docLines_head q rest' (hp q (by simp)) _)]
      rw [obsOut, List.map_append]
      exact congr (congrArg _ (hgroup s hs)) (ih (fun x hx => hp x (List.mem_cons_of_mem _ hx)) _)

/-! ### character classes: from the grammar to the facts the loop needs -/

/-- the characters of a `narrowName` -/
def nameCh (c : Char) : Bool := isAsciiAlnum c || c == '-'

theorem extra_not_nameCh : ∀ kv ∈ Generated.azIgnoreCaseExtra, nameCh (Char.ofNat kv.1) = false := by decide

theorem nameCh_isNameChar {c : Char} (h : nameCh c = true) : isNameChar c = true := by
  simp only [nameCh, isAsciiAlnum, Char.isAlphanum, Bool.or_eq_true, beq_iff_eq] at h
  simp only [isNameChar, isLetterIC, isAsciiAlpha, isAsciiDigit, Bool.or_eq_true, decide_eq_true_eq]
  rcases h with (h | h) | h
  · exact Or.inl (Or.inl (Or.inl h))
  · exact Or.inl (Or.inr h)
  · exact Or.inr h

theorem nameCh_not_space {c : Char} (h : nameCh c = true) : isSpace c = false :=
  nameChar_not_space (nameCh_isNameChar h)

theorem nameCh_ne {c : Char} (h : nameCh c = true) : c ≠ ':' ∧ c ≠ '\n' ∧ c ≠ '\r' ∧ c ≠ ' ' ∧ c ≠ '\t' := by
  refine ⟨?_, ?_, ?_, ?_, ?_⟩ <;> (intro e; subst e; revert h; decide)

theorem lowerNameChar_nameCh {c : Char} (h : nameCh c = true) : lowerNameChar c = [lowerAsciiChar c] := by
  unfold lowerNameChar
  cases hl : Generated.azIgnoreCaseExtra.lookup c.toNat with
  | none => rfl
  | some v =>
    obtain ⟨l₁, l₂, e, _⟩ := List.lookup_eq_some_iff.mp hl
    have := extra_not_nameCh (c.toNat, v) (by rw [e]; simp)
    rw [Char.ofNat_toNat, h] at this
    cases this

theorem lowerName_nameCh (n : Str) (h : ∀ c ∈ n, nameCh c = true) : lowerName n = lowerAscii n := by
  induction n with
  | nil => rfl
  | cons c cs ih =>
    simp only [lowerName, List.map_cons, List.flatten_cons, lowerNameChar_nameCh (h c (by simp)), lowerAscii] at ih ⊢
    rw [ih (fun d hd => h d (by simp [hd]))]
    rfl

/-- `fieldOk narrowName` without the clause that keeps `licence` out: what the line-tracking loop needs -/
def fieldOkAny (f : Field) : Bool :=
  narrowName f.name &&
  lineOk f.value && !headP isSpace f.value &&
  f.conts.all (fun c => lineOk c && Model.Deb822.isCont c) &&
  f.sp.all (fun c => c == ' ' || c == '\t') &&
  (!f.value.isEmpty || f.sp.isEmpty)

theorem fieldOkAny_clauses (f : Field) (h : fieldOkAny f = true) :
    headP isAsciiAlpha f.name = true ∧ (∀ c ∈ f.name, nameCh c = true) ∧ lineOk f.value = true ∧
    headP isSpace f.value = false ∧ (∀ c ∈ f.conts, lineOk c = true ∧ isCont c = true) ∧
    (∀ c ∈ f.sp, c = ' ' ∨ c = '\t') ∧ (f.value.isEmpty = false ∨ f.sp = []) := by
  simpa only [fieldOkAny, narrowName, nameCh, Bool.and_eq_true, Bool.not_eq_true', Bool.or_eq_true, List.all_eq_true,
    beq_iff_eq, List.isEmpty_iff, and_assoc] using h

theorem fieldOk_clauses (nameOk : Str → Bool) (f : Field) (h : fieldOk nameOk f = true) :
    nameOk f.name = true ∧ lowerAscii f.name ≠ licence ∧ lineOk f.value = true ∧
    headP isSpace f.value = false ∧ (∀ c ∈ f.conts, lineOk c = true ∧ isCont c = true) ∧
    (∀ c ∈ f.sp, c = ' ' ∨ c = '\t') ∧ (f.value.isEmpty = false ∨ f.sp = []) := by
  simp only [fieldOk, Bool.and_eq_true, Bool.not_eq_true', Bool.or_eq_true, List.all_eq_true, beq_iff_eq, bne_iff_ne,
    ne_eq, List.isEmpty_iff, and_assoc] at h
  exact h

theorem fieldOkAny_of_ok (f : Field) (h : fieldOk narrowName f = true) : fieldOkAny f = true := by
  simp only [fieldOk, fieldOkAny, Bool.and_eq_true, and_assoc] at h ⊢
  exact ⟨h.1, h.2.2⟩

theorem lineOk_NoT (l : Str) (h : lineOk l = true) : NoT l := by
  simp only [lineOk, Bool.and_eq_true, Bool.not_eq_true'] at h
  exact ⟨by simpa using h.1.1, by simpa using h.1.2⟩

theorem lineOk_last (l : Str) (h : lineOk l = true) : lastP isSpace l = false := by
  simp only [lineOk, Bool.and_eq_true, Bool.not_eq_true'] at h
  exact h.2

theorem fieldFactsAny (f : Field) (h : fieldOkAny f = true) : FieldFacts f := by
  obtain ⟨hhead, hnc, hvline, hvhead, hconts, hsp, hvsp⟩ := fieldOkAny_clauses f h
  have hcolon : ':' ∉ f.name := fun hm => (nameCh_ne (hnc _ hm)).1 rfl
  have hdecl : isDecl (declLine f) = true :=
    declLine_eq f ▸ isDecl_name_colon f.name (f.sp ++ f.value)
      (by cases hn : f.name with
          | nil => rw [hn] at hhead; cases hhead
          | cons c cs => rw [hn] at hhead; simp only [headP] at hhead ⊢; simp [isLetterIC, hhead])
      (fun c hc => nameCh_isNameChar (hnc c hc))
  refine ⟨hdecl, decl_not_blank _ hdecl, decl_not_cont _ hdecl, fun k => ?_,
    fun c hc => ⟨(hconts c hc).2, lineOk_last c (hconts c hc).1⟩, ?_⟩
  · have hval : strip (f.sp ++ f.value) = f.value := by
      have hspsp : ∀ c ∈ f.sp, isSpace c = true := by
        intro c hc
        rcases hsp c hc with e | e <;> (subst e; decide)
      by_cases hve : f.value = []
      · rw [hve, List.append_nil]
        rcases hvsp with h | h
        · simp [hve] at h
        · rw [h]; rfl
      · simpa using strip_core f.sp f.value [] hspsp (by simp) hvhead (lastP_false_of hve (lineOk_last _ hvline))
    have := fromLine_name_colon k f.name (f.sp ++ f.value) hcolon
    rwa [strip_of_all (fun c hc => nameCh_not_space (hnc c hc)), hval, lowerName_nameCh f.name hnc,
      ← declLine_eq] at this
  · cases hv : f.value with
    | nil => rfl
    | cons c cs =>
      rw [hv] at hvhead
      simp only [headP] at hvhead
      simp [isBlank, hvhead]

theorem fieldFacts (f : Field) (h : fieldOk narrowName f = true) : FieldFacts f :=
  fieldFactsAny f (fieldOkAny_of_ok f h)

theorem pname_of_ok (f : Field) (h : fieldOk narrowName f = true) : pname f = lowerAscii f.name :=
  if_neg (fieldOk_clauses _ f h).2.1

theorem not_mem_declLine (f : Field) (t : Char) (ht : t ≠ ':' ∧ t ≠ ' ' ∧ t ≠ '\t')
    (hsp : ∀ c ∈ f.sp, c = ' ' ∨ c = '\t') (hn : t ∉ f.name) (hv : t ∉ f.value) : t ∉ declLine f := by
  simp only [declLine, List.mem_append, List.mem_cons]
  rintro ((hm | rfl | hm) | hm)
  · exact hn hm
  · exact ht.1 rfl
  · rcases hsp t hm with e | e
    · exact ht.2.1 e
    · exact ht.2.2 e
  · exact hv hm

theorem fieldLines_NoT (f : Field) (hne : f.name ≠ []) (hn : NoT f.name) (hsp : ∀ c ∈ f.sp, c = ' ' ∨ c = '\t')
    (hv : NoT f.value) (hc : ∀ c ∈ f.conts, NoT c ∧ c ≠ []) : ∀ l ∈ fieldLines f, NoT l ∧ l ≠ [] := by
  intro l hl
  rcases List.mem_cons.mp hl with rfl | hl
  · exact ⟨⟨not_mem_declLine f _ (by decide) hsp hn.1 hv.1, not_mem_declLine f _ (by decide) hsp hn.2 hv.2⟩,
      by simp [hne]⟩
  · exact hc l hl

theorem fieldLines_factsAny (f : Field) (h : fieldOkAny f = true) : ∀ l ∈ fieldLines f, NoT l ∧ l ≠ [] := by
  obtain ⟨hhead, hnc, hvline, _, hconts, hsp, _⟩ := fieldOkAny_clauses f h
  refine fieldLines_NoT f ?_ ⟨fun hm => (nameCh_ne (hnc _ hm)).2.1 rfl, fun hm => (nameCh_ne (hnc _ hm)).2.2.1 rfl⟩
    hsp (lineOk_NoT _ hvline) (fun c hc => ⟨lineOk_NoT c (hconts c hc).1, cont_ne_nil (hconts c hc).2⟩)
  rintro e; rw [e] at hhead; cases hhead

theorem fieldLines_facts (f : Field) (h : fieldOk narrowName f = true) : ∀ l ∈ fieldLines f, NoT l ∧ l ≠ [] :=
  fieldLines_factsAny f (fieldOkAny_of_ok f h)

theorem wfWith_clauses (nameOk : Str → Bool) (i : Input) (h : wfWith nameOk i = true) :
    i.paras ≠ [] ∧
    (∀ p ∈ i.paras, p.fields ≠ [] ∧ (∀ f ∈ p.fields, fieldOk nameOk f = true) ∧ distinctNames p = true ∧
      ∀ l ∈ p.sep, ∀ c ∈ l, c = ' ' ∨ c = '\t') ∧
    i.text = render i.paras i.finalNl := by
  simpa only [wfWith, Bool.and_eq_true, Bool.not_eq_true', List.all_eq_true, beq_iff_eq, List.isEmpty_eq_false_iff,
    Bool.or_eq_true, and_assoc] using h

theorem sepLine_facts (l : Str) (h : ∀ c ∈ l, c = ' ' ∨ c = '\t') : isBlank l = true ∧ NoT l := by
  refine ⟨List.all_eq_true.mpr fun c hc => ?_, fun hm => ?_, fun hm => ?_⟩
  · rcases h c hc with e | e <;> (subst e; decide)
  · rcases h _ hm with e | e <;> cases e
  · rcases h _ hm with e | e <;> cases e

/-- **C06, line-tracking parser** — on every well-formed deb822 document (names of a letter, then letters, digits
and hyphens; any blanks after the colons, any separator lines, final newline or not) the model of
`get_paragraphs_as_field_groups` returns `expectedTracking`: the paragraphs in order, each field with its lower-cased
name, its first-line value and its continuation lines -/
theorem tracking_sound (i : Input) (h : wfWith narrowName i = true) :
    (model i).tracking = .ok (expectedTracking i) := by
  obtain ⟨_, hparas, htext⟩ := wfWith_clauses _ i h
  have hpf : ∀ p ∈ i.paras, ParaFacts p := fun p hp =>
    ⟨(hparas p hp).1, fun f hf => fieldFacts f ((hparas p hp).2.1 f hf),
      fun l hl => (sepLine_facts l ((hparas p hp).2.2.2 l hl)).1⟩
  have hlines : ∀ p ∈ i.paras, paraLines p ≠ [] ∧ (∀ l ∈ paraLines p, NoT l ∧ l ≠ []) ∧ ∀ l ∈ p.sep, NoT l := by
    intro p hp
    obtain ⟨hne, hf, _, hsep⟩ := hparas p hp
    refine ⟨?_, ?_, fun l hl => (sepLine_facts l (hsep l hl)).2⟩
    · obtain ⟨f, fs, hfs⟩ := List.exists_cons_of_ne_nil hne
      simp [paraLines, hfs, fieldLines_eq]
    · intro l hl
      obtain ⟨f, hf', hlf⟩ := List.mem_flatMap.mp hl
      exact fieldLines_facts f (hf f hf') l hlf
  have hgo := go_doc i.paras hpf 1
  rw [← lines_render i.paras i.finalNl hlines, ← htext] at hgo
  have hexp : (i.paras.map fun p => p.fields.map expField) = expectedTracking i :=
    List.map_congr_left fun p hp => List.map_congr_left fun f hf => by
      rw [expField, pname_of_ok f ((hparas p hp).2.1 f hf)]
  rw [← hexp, ← hgo]
  rfl

/-- non-vacuity: three empty lines followed by a whitespace-only line; a value with ": "; K3 -/
example : (model ⟨[], true, "A: x: y\n c\n\n\n\n \nB2: .d\n".toList⟩).headers =
    .ok [[("a".toList, "x: y\n c".toList)], [("b2".toList, ".d".toList)]] := by
  -- the literals as character lists: the kernel would otherwise encode each to UTF-8 and decode it again
  repeat rw [String.toList_ofList]
  decide +kernel
example : (model ⟨[], true, "A: x: y\n c\n\n\n\n \nB2: .d\n".toList⟩).tracking =
    .ok [[("a".toList, ["x: y".toList, " c".toList])], [("b2".toList, [".d".toList])]] := by
  repeat rw [String.toList_ofList]
  decide +kernel
example : (model ⟨[], true, "X_Foo: bar\n".toList⟩).tracking = .ok [[("unknown".toList, ["X_Foo: bar".toList])]] := by
  repeat rw [String.toList_ofList]
  decide +kernel

end Props.C06
