/-
C02 — Version comparison is one coherent total preorder: property theorems.
-/
import DebInspector.Props.C02
import DebInspector.Proofs.VersionOrder
import DebInspector.Proofs.AssocList

namespace Props.C02
open Proto Py Spec Spec.VerOrder PadLex Model.Version Proofs.VersionOrder

/-- the order of two version strings: `cmpVer` on their dpkg decompositions -/
def ord (a b : Str) : Ordering := cmpVer dpkgRk (Policy.split (strip a)) (Policy.split (strip b))

theorem ordPre : IsPre (fun a b : Str => ord a b) :=
  (cmpVer_pre dpkgRk).comap fun a => Policy.split (strip a)

theorem cmp_eq (a b : Str) (va vb : Ver) (ha : fromString a = .ok va) (hb : fromString b = .ok vb) :
    compareVersions a b = .ok (ordInt (ord a b)) := compareVersions_eq a b va vb ha hb

theorem ordInt_swap (o : Ordering) : ordInt o.swap = - ordInt o := by cases o <;> rfl
theorem ordInt_le (o : Ordering) : ordInt o ≤ 0 ↔ o ≠ .gt := by cases o <;> decide
theorem ordInt_lt (o : Ordering) : ordInt o < 0 ↔ o = .lt := by cases o <;> decide
theorem ordInt_values (o : Ordering) : ordInt o = -1 ∨ ordInt o = 0 ∨ ordInt o = 1 := by cases o <;> decide

theorem cmp_values (a b : Str) (r : Int) (h : compareVersions a b = .ok r) : r = -1 ∨ r = 0 ∨ r = 1 := by
  have := compareVersions_cases a b
  rw [h] at this
  rw [this.2]; exact ordInt_values _

theorem cmp_refl (a : Str) (va : Ver) (ha : fromString a = .ok va) : compareVersions a a = .ok 0 := by
  rw [cmp_eq a a va va ha ha, ordPre.refl a]; rfl

theorem cmp_swap (a b : Str) (va vb : Ver) (ha : fromString a = .ok va) (hb : fromString b = .ok vb) :
    ∃ r, compareVersions a b = .ok r ∧ compareVersions b a = .ok (-r) := by
  refine ⟨ordInt (ord a b), cmp_eq a b va vb ha hb, ?_⟩
  rw [cmp_eq b a vb va hb ha, ordPre.swap a b, ordInt_swap]

/-- transitivity of "not after", including through order-equal versions such as 1.0 and 1.00 -/
theorem cmp_trans_le (a b c : Str) (va vb vc : Ver)
    (ha : fromString a = .ok va) (hb : fromString b = .ok vb) (hc : fromString c = .ok vc)
    (rab rbc : Int) (h1 : compareVersions a b = .ok rab) (h2 : compareVersions b c = .ok rbc)
    (l1 : rab ≤ 0) (l2 : rbc ≤ 0) : ∃ rac, compareVersions a c = .ok rac ∧ rac ≤ 0 := by
  rw [cmp_eq a b va vb ha hb] at h1; cases h1
  rw [cmp_eq b c vb vc hb hc] at h2; cases h2
  refine ⟨_, cmp_eq a c va vc ha hc, ?_⟩
  rw [ordInt_le] at *
  exact ordPre.trans_le a b c l1 l2

theorem cmp_trans_lt (a b c : Str) (va vb vc : Ver)
    (ha : fromString a = .ok va) (hb : fromString b = .ok vb) (hc : fromString c = .ok vc)
    (rab rbc : Int) (h1 : compareVersions a b = .ok rab) (h2 : compareVersions b c = .ok rbc)
    (l1 : rab ≤ 0) (l2 : rbc ≤ 0) (hs : rab < 0 ∨ rbc < 0) :
    ∃ rac, compareVersions a c = .ok rac ∧ rac < 0 := by
  rw [cmp_eq a b va vb ha hb] at h1; cases h1
  rw [cmp_eq b c vb vc hb hc] at h2; cases h2
  refine ⟨_, cmp_eq a c va vc ha hc, ?_⟩
  rw [ordInt_le] at l1 l2
  rw [ordInt_lt, ordInt_lt] at hs
  rw [ordInt_lt]
  rcases hs with hs | hs
  · exact ordPre.lt_of_lt_of_le a b c hs l2
  · exact ordPre.lt_of_le_of_lt a b c l1 hs

/-- **the operators are the stated functions of the three-way result** (over the table extracted
from `eval_constraint` on this run): `<<` strictly earlier, `<=` and legacy `<` earlier or equal,
`=` order-equal, `>=` and legacy `>` later or equal, `>>` strictly later -/
theorem ops_agree : ∀ r ∈ [(-1 : Int), 0, 1],
    evalOp "<<" r = .ok (decide (r < 0)) ∧ evalOp "<=" r = .ok (decide (r ≤ 0)) ∧
    evalOp "<" r = .ok (decide (r ≤ 0)) ∧ evalOp "=" r = .ok (decide (r = 0)) ∧
    evalOp ">=" r = .ok (decide (r ≥ 0)) ∧ evalOp ">" r = .ok (decide (r ≥ 0)) ∧
    evalOp ">>" r = .ok (decide (r > 0)) := by decide +kernel

/-- the operator table has seven entries (the first disjunct, their names in the order of this run, implies the second) -/
theorem ops_seven : Generated.ops.map (·.1) = ["<", ">", "=", "<<", "<=", ">>", ">="] ∨
    (Generated.ops.map (·.1)).length = 7 := by decide

/-- versions that compare `==` (same epoch, upstream, revision) are order-equal -/
theorem eq_imp_cmp_zero (a b : Str) (va vb : Ver) (ha : fromString a = .ok va) (hb : fromString b = .ok vb)
    (he : va = vb) : compareVersions a b = .ok 0 := by
  subst he
  rw [cmp_eq a b va va ha hb]
  have h1 := (Proofs.VersionParse.fromString_ok a va ha).2
  have h2 := (Proofs.VersionParse.fromString_ok b va hb).2
  have : ord a b = .eq := by
    unfold ord; rw [← h1, ← h2]; exact (cmpVer_pre dpkgRk).refl _
  rw [this]; rfl

/-! ### the reference stable sort -/

theorem insertIdx_perm (lt : Nat → Nat → Bool) (i : Nat) (l : List Nat) :
    (insertIdx lt i l).Perm (i :: l) := by
  induction l with
  | nil => exact List.Perm.refl _
  | cons j js ih =>
    unfold insertIdx
    split
    · exact List.Perm.refl _
    · exact (List.Perm.cons j ih).trans (List.Perm.swap i j js)

theorem stableSort_perm (lt : Nat → Nat → Bool) (n : Nat) : (stableSort lt n).Perm (List.range n) := by
  unfold stableSort
  have := Proofs.Assoc.foldl_perm_of_insert (insertIdx lt) (insertIdx_perm lt) (List.range n) []
  rwa [List.append_nil] at this

/-- `lt` behaves as the strict part of a total preorder -/
structure StrictWeak (lt : Nat → Nat → Bool) : Prop where
  trans_le : ∀ i j k, lt j i = false → lt k j = false → lt k i = false
  asymm : ∀ i j, lt i j = true → lt j i = false

def Sorted (lt : Nat → Nat → Bool) (l : List Nat) : Prop := l.Pairwise (fun i j => lt j i = false)

theorem insertIdx_sorted (lt : Nat → Nat → Bool) (h : StrictWeak lt) (i : Nat) (l : List Nat)
    (hs : Sorted lt l) : Sorted lt (insertIdx lt i l) := by
  induction l with
  | nil => simp [insertIdx, Sorted]
  | cons j js ih =>
    unfold Sorted at hs ih ⊢
    rw [List.pairwise_cons] at hs
    unfold insertIdx
    split
    · rename_i hij
      rw [List.pairwise_cons]
      refine ⟨?_, List.pairwise_cons.mpr hs⟩
      intro k hk
      rcases List.mem_cons.mp hk with rfl | hk
      · exact h.asymm _ _ hij
      · exact h.trans_le _ _ _ (h.asymm _ _ hij) (hs.1 k hk)
    · rename_i hij
      have hij' : lt i j = false := by simpa using hij
      rw [List.pairwise_cons]
      refine ⟨?_, ih hs.2⟩
      intro k hk
      have hm := (insertIdx_perm lt i js).mem_iff.mp hk
      rcases List.mem_cons.mp hm with rfl | hk
      · exact hij'
      · exact hs.1 k hk

theorem stableSort_sorted (lt : Nat → Nat → Bool) (h : StrictWeak lt) (n : Nat) :
    Sorted lt (stableSort lt n) := by
  unfold stableSort
  have : ∀ (xs acc : List Nat), Sorted lt acc → Sorted lt (xs.foldl (fun acc i => insertIdx lt i acc) acc) := by
    intro xs
    induction xs with
    | nil => intro acc ha; simpa using ha
    | cons x xs ih => intro acc ha; exact ih _ (insertIdx_sorted lt h x acc ha)
  exact this _ [] (by simp [Sorted])

theorem version_lt_strictWeak (vs : List Str) :
    StrictWeak (fun i j => decide (ord (vs.getD i []) (vs.getD j []) = .lt)) := by
  have p := ordPre
  constructor
  · -- k < i, ¬ j < i, ¬ k < j would give i ≤ j ≤ k < i
    intro i j k h1 h2
    rw [decide_eq_false_iff_not, ← p.gt_iff_lt] at *
    exact p.trans_le _ _ _ h1 h2
  · intro i j h
    rw [decide_eq_true_eq] at h
    rw [decide_eq_false_iff_not, p.swap (vs.getD i []) (vs.getD j []), h]
    decide

/-! ### the whole observation -/

theorem mapM_error_or {α β} (f : α → Except PyExc β) (l : List α) :
    (∃ e, l.mapM f = .error e) ∨ (∃ ps, l.mapM f = .ok ps) := by
  cases h : l.mapM f with
  | error e => exact Or.inl ⟨e, rfl⟩
  | ok ps => exact Or.inr ⟨ps, rfl⟩

theorem getD_of_lt {α} (l : List α) (i : Nat) (d : α) (h : i < l.length) : l.getD i d = l[i] := by
  simp [List.getD_eq_getElem?_getD, List.getElem?_eq_getElem h]

theorem allIdx_iff (n : Nat) (p : Nat → Bool) : allIdx n p = true ↔ ∀ i, i < n → p i = true := by
  simp [allIdx, List.all_eq_true, List.mem_range]

def tbl {α} (n : Nat) (g : Nat → Nat → α) : List (List α) :=
  (List.range n).map fun i => (List.range n).map fun j => g i j

theorem tbl_get {α} (n : Nat) (g : Nat → Nat → α) (d : α) (i j : Nat) (hi : i < n) (hj : j < n) :
    ((tbl n g).getD i []).getD j d = g i j := by
  simp [tbl, List.getD_eq_getElem?_getD, hi, hj]

theorem tbl_shape {α} (n : Nat) (g : Nat → Nat → α) :
    ((tbl n g).length == n) = true ∧ ((tbl n g).all fun r => r.length == n) = true := by
  simp [tbl, List.all_eq_true]

theorem map_eq_range_map {α β} (l : List α) (F : α → β) (d : α) :
    l.map F = (List.range l.length).map fun i => F (l.getD i d) := by
  apply List.ext_getElem
  · simp
  · intro i h1 h2
    have : i < l.length := by simpa using h1
    simp [List.getD_eq_getElem?_getD, List.getElem?_eq_getElem this]

theorem map_map_eq_tbl {α β} (l : List α) (F : α → α → β) (d : α) :
    (l.map fun a => l.map fun b => F a b) = tbl l.length fun i j => F (l.getD i d) (l.getD j d) := by
  rw [tbl, map_eq_range_map l _ d]
  exact List.map_congr_left fun i _ => map_eq_range_map l _ d

/-- an abstract comparison table on the indices below `n` -/
structure Table (n : Nat) (g : Nat → Nat → Int) : Prop where
  vals : ∀ i j, i < n → j < n → g i j = -1 ∨ g i j = 0 ∨ g i j = 1
  swap : ∀ i j, i < n → j < n → g j i = - g i j
  refl : ∀ i, i < n → g i i = 0
  trans : ∀ i j k, i < n → j < n → k < n → g i j ≤ 0 → g j k ≤ 0 →
    g i k ≤ 0 ∧ ((g i j < 0 ∨ g j k < 0) → g i k < 0)

theorem Table.of_isPre {β} {c : β → β → Ordering} (p : IsPre c) (x : Nat → β) (n : Nat) :
    Table n (fun i j => ordInt (c (x i) (x j))) where
  vals _ _ _ _ := ordInt_values _
  swap i j _ _ := by rw [p.swap (x i) (x j), ordInt_swap]
  refl i _ := by rw [p.refl]; rfl
  trans i j k _ _ _ h1 h2 := by
    rw [ordInt_le] at h1 h2
    refine ⟨(ordInt_le _).mpr (p.trans_le _ _ _ h1 h2), fun hs => ?_⟩
    rw [ordInt_lt, ordInt_lt] at hs
    rw [ordInt_lt]
    rcases hs with hs | hs
    · exact p.lt_of_lt_of_le _ _ _ hs h2
    · exact p.lt_of_le_of_lt _ _ _ h1 hs

theorem Table.ge_trans {n : Nat} {g : Nat → Nat → Int} (T : Table n g) {a b c : Nat} (ha : a < n) (hb : b < n)
    (hc : c < n) (h1 : g a b ≥ 0) (h2 : g b c ≥ 0) : g a c ≥ 0 := by
  have s1 := T.swap a b ha hb
  have s2 := T.swap b c hb hc
  have s3 := T.swap a c ha hc
  have := (T.trans c b a hc hb ha (by omega) (by omega)).1
  omega

/-- the table of the converse order; `min` is `max` under it -/
theorem Table.flip {n : Nat} {g : Nat → Nat → Int} (T : Table n g) : Table n (fun i j => g j i) where
  vals i j hi hj := T.vals j i hj hi
  swap i j hi hj := T.swap j i hj hi
  refl i hi := T.refl i hi
  trans i j k hi hj hk h1 h2 :=
    have := T.trans k j i hk hj hi h2 h1
    ⟨this.1, fun h => this.2 h.symm⟩

/-- what `pairObs` records of a pair with three-way result `r` and `==` result `eq`: the six rich comparisons, and the
seven constraint operators in the order of `opNames` -/
def pairOf (r : Int) (eq : Bool) : PairObs :=
  ⟨[decide (r < 0), decide (r ≤ 0), decide (r > 0), decide (r ≥ 0), eq, !eq], true,
   [decide (r < 0), decide (r ≤ 0), decide (r ≤ 0), decide (r = 0), decide (r ≥ 0), decide (r ≥ 0), decide (r > 0)]⟩

theorem insertIdx_congr (lt lt' : Nat → Nat → Bool) (n i : Nat) (l : List Nat) (hi : i < n) (hl : ∀ x ∈ l, x < n)
    (h : ∀ a b, a < n → b < n → lt a b = lt' a b) : insertIdx lt i l = insertIdx lt' i l := by
  induction l with
  | nil => rfl
  | cons j js ih =>
    simp only [insertIdx, h i j hi (hl j (by simp)), ih (fun x hx => hl x (by simp [hx]))]

theorem insertIdx_mem (lt : Nat → Nat → Bool) (i : Nat) (l : List Nat) : ∀ x ∈ insertIdx lt i l, x = i ∨ x ∈ l := by
  intro x hx
  have := (insertIdx_perm lt i l).mem_iff.mp hx
  simpa using this

theorem stableSort_congr (lt lt' : Nat → Nat → Bool) (n : Nat) (h : ∀ a b, a < n → b < n → lt a b = lt' a b) :
    stableSort lt n = stableSort lt' n := by
  unfold stableSort
  have key : ∀ (xs acc : List Nat), (∀ x ∈ xs, x < n) → (∀ x ∈ acc, x < n) →
      xs.foldl (fun acc i => insertIdx lt i acc) acc = xs.foldl (fun acc i => insertIdx lt' i acc) acc := by
    intro xs
    induction xs with
    | nil => intro acc _ _; rfl
    | cons x xs ih =>
      intro acc hx hacc
      simp only [List.foldl_cons]
      rw [insertIdx_congr lt lt' n x acc (hx x (by simp)) hacc h]
      apply ih
      · intro y hy; exact hx y (by simp [hy])
      · intro y hy
        rcases insertIdx_mem lt' x acc y hy with e | e
        · rw [e]; exact hx x (by simp)
        · exact hacc y e
  exact key _ [] (fun x hx => by simpa using hx) (by simp)

theorem isPerm_of_perm (n : Nat) (p : List Nat) (h : p.Perm (List.range n)) : isPerm n p = true := by
  simp only [isPerm, Bool.and_eq_true, beq_iff_eq, allIdx_iff]
  refine ⟨by simpa using h.length_eq, ?_⟩
  intro i hi
  have : i ∈ p := h.mem_iff.mpr (by simpa using hi)
  simpa using this

/-- the clamped comparison: a strict weak order on all indices that agrees with the table below `n` -/
def clampLt (n : Nat) (g : Nat → Nat → Int) (i j : Nat) : Bool := decide (g (min i (n - 1)) (min j (n - 1)) < 0)

theorem clampLt_strictWeak (n : Nat) (g : Nat → Nat → Int) (hn : 0 < n) (T : Table n g) : StrictWeak (clampLt n g) := by
  have hb : ∀ i, min i (n - 1) < n := fun i => by omega
  constructor
  · intro i j k h1 h2
    rw [clampLt, decide_eq_false_iff_not, Int.not_lt] at *
    exact T.ge_trans (hb k) (hb j) (hb i) h2 h1
  · intro i j h
    rw [clampLt, decide_eq_true_eq] at h
    rw [clampLt, decide_eq_false_iff_not, T.swap (min i (n-1)) (min j (n-1)) (hb i) (hb j)]
    omega

theorem sorted_adjacent (n : Nat) (g : Nat → Nat → Int) (T : Table n g) (lt : Nat → Nat → Bool)
    (hlt : ∀ a b, a < n → b < n → lt a b = decide (g a b < 0)) :
    ∀ k, k < n - 1 → g ((stableSort lt n).getD k 0) ((stableSort lt n).getD (k + 1) 0) ≤ 0 := by
  intro k hk
  have hb : ∀ a, a < n → min a (n - 1) = a := fun a ha => by omega
  rw [stableSort_congr lt (clampLt n g) n fun a b ha hb' => by rw [hlt a b ha hb', clampLt, hb a ha, hb b hb']]
  have hperm := stableSort_perm (clampLt n g) n
  have hsorted := stableSort_sorted (clampLt n g) (clampLt_strictWeak n g (by omega) T) n
  generalize stableSort (clampLt n g) n = l at hperm hsorted ⊢
  have hlen : l.length = n := by rw [hperm.length_eq, List.length_range]
  have hk1 : k < l.length := by omega
  have hk2 : k + 1 < l.length := by omega
  have hin : ∀ i (hi : i < l.length), l[i] < n := fun i hi =>
    List.mem_range.mp (hperm.mem_iff.mp (List.getElem_mem hi))
  rw [getD_of_lt l k 0 hk1, getD_of_lt l (k + 1) 0 hk2]
  have hpw := List.pairwise_iff_getElem.mp hsorted k (k + 1) hk1 hk2 (Nat.lt_succ_self k)
  rw [clampLt, decide_eq_false_iff_not, hb _ (hin _ hk2), hb _ (hin _ hk1)] at hpw
  have := T.swap _ _ (hin k hk1) (hin (k + 1) hk2)
  omega

/-- the running maximum of Python's `max` stays below `n`, and is not before its start value nor before anything it
has passed -/
theorem foldl_max {n : Nat} {g : Nat → Nat → Int} (T : Table n g) (gt : Nat → Nat → Bool)
    (hgt : ∀ a b, a < n → b < n → gt a b = decide (g a b > 0)) :
    ∀ (l : List Nat) (m : Nat), m < n → (∀ i ∈ l, i < n) →
      l.foldl (fun m i => if gt i m then i else m) m < n ∧
      ∀ j, j = m ∨ j ∈ l → g (l.foldl (fun m i => if gt i m then i else m) m) j ≥ 0
  | [], m, hm, _ => ⟨hm, fun j hj => by
      rcases hj with rfl | hj
      · exact Int.le_of_eq (T.refl j hm).symm
      · cases hj⟩
  | i :: l, m, hm, hl => by
    rw [List.forall_mem_cons] at hl
    rw [List.foldl_cons, hgt i m hl.1 hm]
    by_cases hg : g i m > 0
    · -- `i` becomes the maximum: what follows is not before `i`, which is after `m`
      rw [decide_eq_true hg, if_pos rfl]
      obtain ⟨hr, hall⟩ := foldl_max T gt hgt l i hl.1 hl.2
      refine ⟨hr, fun j hj => ?_⟩
      rcases hj with rfl | hj
      · exact T.ge_trans hr hl.1 hm (hall i (.inl rfl)) (Int.le_of_lt hg)
      · exact hall j ((List.mem_cons.mp hj).imp_right id)
    · -- `m` stays: `i` is not after it
      rw [decide_eq_false hg, if_neg Bool.false_ne_true]
      obtain ⟨hr, hall⟩ := foldl_max T gt hgt l m hm hl.2
      refine ⟨hr, fun j hj => ?_⟩
      rcases hj with rfl | hj
      · exact hall _ (.inl rfl)
      · rcases List.mem_cons.mp hj with rfl | hj
        · have := T.swap j m hl.1 hm
          exact T.ge_trans hr hm hl.1 (hall m (.inl rfl)) (by omega)
        · exact hall j (.inr hj)

/-- Python `max` / `min`: the running extremum of a total preorder is extremal -/
theorem firstMax_extremal (n : Nat) (g : Nat → Nat → Int) (T : Table n g) (gt : Nat → Nat → Bool)
    (hgt : ∀ a b, a < n → b < n → gt a b = decide (g a b > 0)) :
    match firstMax gt n with
    | none => n = 0
    | some m => m < n ∧ ∀ j, j < n → g m j ≥ 0 := by
  unfold firstMax
  by_cases hn : n = 0
  · rw [if_pos hn]; exact hn
  · rw [if_neg hn]
    obtain ⟨hr, hall⟩ := foldl_max T gt hgt (List.range n) 0 (Nat.pos_of_ne_zero hn) fun i hi => List.mem_range.mp hi
    exact ⟨hr, fun j hj => hall j (.inr (List.mem_range.mpr hj))⟩

/-- the observation the model builds from a comparison table -/
def fullOf (n : Nat) (g : Nat → Nat → Int) (e : Nat → Nat → Bool) : Full :=
  let matrix := tbl n g
  let get (i j : Nat) : Int := (matrix.getD i []).getD j 0
  let lt := fun i j => decide (get i j < 0)
  let gt := fun i j => decide (get i j > 0)
  { matrix := matrix, pairs := tbl n fun i j => pairOf (g i j) (e i j),
    sortedObj := stableSort lt n, sortedKey := stableSort lt n,
    maxIdx := firstMax gt n, minIdx := firstMax lt n }

theorem sorted_clause {n : Nat} {g : Nat → Nat → Int} {M : List (List Int)}
    (hM : ∀ i j, i < n → j < n → (M.getD i []).getD j 0 = g i j) (l : List Nat) (hp : l.Perm (List.range n))
    (hs : ∀ k, k < n - 1 → g (l.getD k 0) (l.getD (k + 1) 0) ≤ 0) :
    allIdx (n - 1) (fun k => decide ((M.getD (l.getD k 0) []).getD (l.getD (k + 1) 0) 0 ≤ 0)) = true := by
  rw [allIdx_iff]
  intro k hk
  have hin : ∀ i, i < n → l.getD i 0 < n := fun i hi => by
    have hi' : i < l.length := by rw [hp.length_eq, List.length_range]; exact hi
    rw [getD_of_lt _ _ _ hi']
    exact List.mem_range.mp (hp.mem_iff.mp (List.getElem_mem hi'))
  rw [hM _ _ (hin k (by omega)) (hin (k + 1) (by omega))]
  exact decide_eq_true (hs k hk)

theorem extremal_clause {n : Nat} {g g' : Nat → Nat → Int} {M : List (List Int)}
    (hM : ∀ i j, i < n → j < n → (M.getD i []).getD j 0 = g i j) (T : Table n g') (after : Nat → Nat → Bool)
    (hafter : ∀ a b, a < n → b < n → after a b = decide (g' a b > 0)) (Q : Int → Prop) [DecidablePred Q]
    (hQ : ∀ m j, m < n → j < n → g' m j ≥ 0 → Q (g m j)) :
    (match firstMax after n with
     | none => n == 0
     | some m => decide (m < n) && allIdx n fun j => decide (Q ((M.getD m []).getD j 0))) = true := by
  have h := firstMax_extremal n g' T after hafter
  split
  · next hm => rw [hm] at h; exact beq_iff_eq.mpr h
  · next m hm =>
    rw [hm] at h
    rw [Bool.and_eq_true, decide_eq_true_eq, allIdx_iff]
    exact ⟨h.1, fun j hj => by rw [hM m j h.1 hj]; exact decide_eq_true (hQ m j h.1 hj (h.2 j hj))⟩

/-- **every clause of the property holds of the observation built from a total preorder table** -/
theorem holdsFull_fullOf (n : Nat) (g : Nat → Nat → Int) (e : Nat → Nat → Bool) (T : Table n g)
    (he : ∀ i j, i < n → j < n → e i j = true → g i j = 0) : holdsFull n (fullOf n g e) = true := by
  have hget : ∀ i j, i < n → j < n → ((tbl n g).getD i []).getD j 0 = g i j :=
    fun i j hi hj => tbl_get n g 0 i j hi hj
  have hperm := stableSort_perm (fun i j => decide (((tbl n g).getD i []).getD j 0 < 0)) n
  have hsorted := sorted_clause hget _ hperm (sorted_adjacent n g T _ fun a b ha hb => by rw [hget a b ha hb])
  simp only [holdsFull, fullOf, Bool.and_eq_true]
  refine ⟨⟨⟨⟨⟨⟨⟨⟨⟨⟨⟨⟨tbl_shape n g, (tbl_shape n _).1⟩, (tbl_shape n _).2⟩, ?_⟩, ?_⟩, ?_⟩, ?_⟩,
    isPerm_of_perm n _ hperm⟩, isPerm_of_perm n _ hperm⟩, hsorted⟩, hsorted⟩, ?_⟩, ?_⟩
  · -- values and antisymmetry
    refine (allIdx_iff _ _).mpr fun i hi => (allIdx_iff _ _).mpr fun j hj => ?_
    simp only [hget i j hi hj, hget j i hj hi, T.swap i j hi hj]
    rcases T.vals i j hi hj with v | v | v <;> rw [v] <;> rfl
  · -- reflexivity
    refine (allIdx_iff _ _).mpr fun i hi => ?_
    rw [hget i i hi hi, T.refl i hi]; rfl
  · -- transitivity
    refine (allIdx_iff _ _).mpr fun i hi => (allIdx_iff _ _).mpr fun j hj => (allIdx_iff _ _).mpr fun k hk => ?_
    have := T.trans i j k hi hj hk
    simp only [hget i j hi hj, hget j k hj hk, hget i k hi hk, Bool.or_eq_true, Bool.and_eq_true, Bool.not_eq_true',
      Bool.and_eq_false_iff, Bool.or_eq_false_iff, decide_eq_true_eq, decide_eq_false_iff_not]
    omega
  · -- the rich comparisons and the operators on each pair
    refine (allIdx_iff _ _).mpr fun i hi => (allIdx_iff _ _).mpr fun j hj => ?_
    simp only [tbl_get n _ _ i j hi hj]
    cases hee : e i j with
    | false => simp [pairOf]
    | true => simp [pairOf, he i j hi hj hee]
  · -- `max`
    exact extremal_clause hget T _ (fun a b ha hb => by simp only [hget a b ha hb]) (· ≥ 0) fun _ _ _ _ h => h
  · -- `min`
    refine extremal_clause hget T.flip _ (fun a b ha hb => ?_) (· ≤ 0) fun m j hm hj h => ?_
    · simp only [hget a b ha hb, T.swap a b ha hb]; exact decide_eq_decide.mpr (by omega)
    · rw [T.swap j m hj hm]; omega

theorem pairObs_ok (a b : Ver) (r : Int) (hr : r = -1 ∨ r = 0 ∨ r = 1) :
    pairObs a b r = .ok (pairOf r (decide (a = b))) := by
  rcases hr with rfl | rfl | rfl <;> rfl

/-- the same order on parsed versions -/
def vcmp (a b : Ver) : Ordering := cmpVer dpkgRk (tupleOf a) (tupleOf b)

/-- `d` stands at the positions outside `ps`, which nothing reads -/
theorem model_ok (vs : Input) (ps : List Ver) (d : Ver) (hps : vs.mapM fromString = .ok ps) :
    model vs = .ok (fullOf vs.length (fun i j => ordInt (vcmp (ps.getD i d) (ps.getD j d)))
      fun i j => decide (ps.getD i d = ps.getD j d)) := by
  obtain ⟨hlen, hparsed⟩ := Proofs.Assoc.mapM_ok_facts hps
  have hcmp : ∀ a ∈ ps, ∀ b ∈ ps, cmpV a b = .ok (ordInt (vcmp a b)) := fun a ha b hb => by
    obtain ⟨sa, -, hsa⟩ := hparsed a ha
    obtain ⟨sb, -, hsb⟩ := hparsed b hb
    have ca := fromString_components sa a hsa
    have cb := fromString_components sb b hsb
    exact compareVersionObjects_eq a b ca.1 ca.2 cb.1 cb.2
  unfold model
  rw [hps]
  simp only [bind, Except.bind]
  rw [Proofs.Assoc.mapM_ok_of _ _ ps fun a ha => Proofs.Assoc.mapM_ok_of _ _ ps (hcmp a ha)]
  simp only [Proofs.Assoc.zip_mapM]
  rw [Proofs.Assoc.mapM_ok_of _ _ ps fun a _ => Proofs.Assoc.mapM_ok_of _ _ ps fun b _ =>
    pairObs_ok a b _ (ordInt_values _)]
  rw [map_map_eq_tbl ps (fun a b => ordInt (vcmp a b)) d, map_map_eq_tbl ps _ d, hlen]
  rfl

/-- **C02, the whole observation**: for every list of strings, every clause of the property holds of what the
model observes — the matrix, the rich comparisons and the seven constraint operators on every ordered pair,
`sorted` of the objects and by key, `max` and `min` -/
theorem sound (vs : Input) : holdsOn vs (model vs) = true := by
  cases hps : vs.mapM fromString with
  | error e =>
    unfold model
    rw [hps]
    rfl
  | ok ps =>
    rw [model_ok vs ps ⟨0, [], []⟩ hps]
    refine holdsFull_fullOf _ _ _ (Table.of_isPre ((cmpVer_pre dpkgRk).comap tupleOf) _ _) fun i j _ _ he => ?_
    rw [of_decide_eq_true he, vcmp, (cmpVer_pre dpkgRk).refl]; rfl

/-- non-vacuity: order-equal but textually different versions, and the legacy operators -/
example : model ["1.0".toList, "1.00".toList] =
    .ok { matrix := [[0, 0], [0, 0]],
          pairs := [[⟨[false, true, false, true, true, false], true, [false, true, true, true, true, true, false]⟩,
                     ⟨[false, true, false, true, false, true], true, [false, true, true, true, true, true, false]⟩],
                    [⟨[false, true, false, true, false, true], true, [false, true, true, true, true, true, false]⟩,
                     ⟨[false, true, false, true, true, false], true, [false, true, true, true, true, true, false]⟩]],
          sortedObj := [0, 1], sortedKey := [0, 1], maxIdx := some 0, minIdx := some 0 } := by
  -- the kernel would otherwise encode each literal to UTF-8 and decode it again
  rw [String.toList_ofList, String.toList_ofList]
  decide +kernel
example : holdsOn ["1:1".toList, "2~".toList, "2".toList] (model ["1:1".toList, "2~".toList, "2".toList]) = true := by
  rw [String.toList_ofList, String.toList_ofList, String.toList_ofList]
  decide +kernel

end Props.C02
