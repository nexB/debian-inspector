/-
C20 — property theorems, all clauses for every text: safety of the encoder and of the three field
classes (`safe_enc`, `safe_ft`, `safe_desc`, `safe_lic`), inverse under the K4 hypothesis (`inverse_partial`), fixpoint
under the K5 hypothesis (`fixpoint_partial`), first line (`first_line`); `sound_partial` combines them.
-/
import DebInspector.Props.C20
import DebInspector.Proofs.Splitlines

namespace Props.C20
open Py Model.Debcon Proofs.Splitlines

/-! ### a text with lines `l0 :: ls` -/

theorem lineSeparated_of_lines {t l0 : Str} {ls : List Str} (hs : splitlines t = l0 :: ls) : lineSeparated t = l0 :: ls := by
  cases t with
  | nil => cases hs
  | cons _ _ => exact hs

theorem asFormattedText_of_lines {t l0 : Str} {ls : List Str} (hs : splitlines t = l0 :: ls) :
    asFormattedText t = asFormattedLines (l0 :: ls) := by
  cases t with
  | nil => cases hs
  | cons _ _ => exact congrArg asFormattedLines hs

theorem fromFormattedText_of_lines {t l0 : Str} {ls : List Str} (hs : splitlines t = l0 :: ls) :
    fromFormattedText t = joinNl (strip l0 :: ls.map decLine) := by
  cases t with
  | nil => cases hs
  | cons c cs => exact congrArg fromFormattedLines (lineSeparated_of_lines hs)

/-! ### pieces of a `"\n "` join -/

/-- a piece that `splitlines` gives back from a `"\n "` join, as a line that is not blank -/
structure GoodPiece (q : Str) : Prop where
  noB : NoB q
  ne : q ≠ []
  nonblank : isBlank q = false

theorem good_encLine {l : Str} (h : NoB l) : GoodPiece (encLine l) := by
  unfold encLine
  split
  · exact ⟨fun c hc => by rw [List.mem_singleton.mp hc]; exact dot_not_boundary, by simp, by simp [isBlank, dot_not_space]⟩
  · rename_i hb
    have hb' : isBlank l = false := by simpa using hb
    exact ⟨h, fun e => by subst e; simp [isBlank] at hb', hb'⟩

theorem encPieces (ls : List Str) (h : ∀ l ∈ ls, NoB l) : ∀ q ∈ ls.map encLine, GoodPiece q := by
  intro q hq
  obtain ⟨x, hx, rfl⟩ := List.mem_map.mp hq
  exact good_encLine (h x hx)

theorem good_rstrip {q : Str} (h : GoodPiece q) : GoodPiece (rstrip q) :=
  ⟨NoB_rstrip h.noB, (fun e => by have := (rstrip_eq_nil_iff q).mp e; rw [h.nonblank] at this; cases this), isBlank_rstrip h.nonblank⟩

theorem good_lstrip {q : Str} (h : GoodPiece q) : GoodPiece (lstrip q) := by
  have hb : isBlank (lstrip q) = false := by rw [isBlank_lstrip]; exact h.nonblank
  exact ⟨NoB_lstrip h.noB, fun e => by rw [e] at hb; simp [isBlank] at hb, hb⟩

theorem joinNlSp_head (ps : List Str) : ∃ r, ∀ p, joinNlSp (p :: ps) = p ++ r := by
  cases ps with
  | nil => exact ⟨[], fun p => (List.append_nil p).symm⟩
  | cons q qs => exact ⟨'\n' :: ' ' :: joinNlSp (q :: qs), fun p => rfl⟩

theorem safe_tail (ps : List Str) (h : ∀ q ∈ ps, isBlank q = false) :
    (ps.map (' ' :: ·)).all (fun l => startsWith l [' '] && !isBlank l) = true := by
  simp only [List.all_eq_true, List.mem_map]
  rintro _ ⟨x, hx, rfl⟩
  simp [startsWith, isBlank_cons, h x hx]

theorem safe_joinNlSp (p : Str) (ps : List Str) (hp : NoB p) (hpne : p ≠ []) (hps : ∀ q ∈ ps, GoodPiece q) :
    safe (joinNlSp (p :: ps)) = true := by
  unfold safe
  rw [splitlines_joinNlSp p ps hp (.inl hpne) (fun q hq => ⟨(hps q hq).noB, (hps q hq).ne⟩)]
  exact safe_tail ps fun q hq => (hps q hq).nonblank

theorem safe_single (p : Str) (hp : NoB p) : safe p = true := by
  unfold safe splitlines
  rw [splitlinesAux_last p hp]
  split <;> rfl

theorem safe_lines (ls : List Str) (h : ∀ l ∈ ls, NoB l) : safe (asFormattedLines ls) = true := by
  cases ls with
  | nil => rfl
  | cons l ls =>
    have hp := good_encLine (h l (by simp))
    exact safe_joinNlSp _ _ hp.noB hp.ne (encPieces ls fun x hx => h x (by simp [hx]))

/-- **C20 safety** — for every Unicode text, every line of `as_formatted_text(t)` after the first,
lines taken at every Python line boundary, starts with a space and is not blank -/
theorem safe_enc (t : Str) : safe (asFormattedText t) = true := by
  unfold asFormattedText
  split
  · rename_i h
    rw [List.isEmpty_iff.mp h]; rfl
  · exact safe_lines _ (splitlines_noB t)

/-- the same for `FormattedTextField.from_value(t).dumps()` -/
theorem safe_ft (t : Str) : safe (formattedTextRoundtrip t) = true := by
  unfold formattedTextRoundtrip lineSeparated
  simp only
  generalize (if t.isEmpty = true then t else fromFormattedText t) = text
  split
  · rfl
  · split
    · rfl
    · exact safe_lines _ (splitlines_noB _)

/-! ### the inverse clause -/

/-- what `invertible` (Props/C20.lean) asks of every line after the first -/
def okLine (l : Str) : Bool := !startsWith l ['.'] && !(headP (fun c => isSpace c && c != ' ') l)

theorem decLine_sp (c : Char) (cs : Str) (hb : isBlank (c :: cs) = false) :
    decLine (' ' :: c :: cs) =
      if c = ' ' then c :: rstrip cs
      else if c = '.' then (if rstrip cs = [] then [] else c :: rstrip cs)
      else strip (c :: cs) := by
  have hsp : isBlank (' ' :: c :: cs) = false := by rw [isBlank_cons, hb]; rfl
  have e1 : rstrip (' ' :: c :: cs) = ' ' :: c :: rstrip cs := by
    rw [rstrip_cons_of_nonblank _ _ hsp, rstrip_cons_of_nonblank _ _ hb]
  have hst : strip (' ' :: c :: rstrip cs) = strip (c :: cs) := by rw [← e1, strip_rstrip, strip_sp]
  unfold decLine
  simp only [e1, startsWith_sp_cons, beq_iff_eq, List.tail_cons, hst, List.cons.injEq, true_and]
  by_cases h1 : c = ' '
  · rw [if_pos h1, if_pos h1]
  rw [if_neg h1, if_neg h1]
  by_cases h2 : c = '.'
  · simp only [h2, true_and, if_true]
  · simp only [h2, false_and, if_false]

theorem decLine_enc (l : Str) (h : okLine l = true) : decLine (' ' :: encLine l) = rstrip l := by
  unfold encLine
  by_cases hb : isBlank l = true
  · rw [if_pos hb, (rstrip_eq_nil_iff l).mpr hb]
    decide
  · have hb' : isBlank l = false := by simpa using hb
    rw [if_neg hb]
    cases l with
    | nil => cases hb'
    | cons c cs =>
      simp only [okLine, startsWith, headP, Bool.and_true, Bool.and_eq_true, Bool.not_eq_true',
        beq_eq_false_iff_ne, ne_eq] at h
      rw [decLine_sp c cs hb', rstrip_cons_of_nonblank _ _ hb']
      by_cases hc : c = ' '
      · rw [if_pos hc]
      · have hns : isSpace c = false := by
          cases hs : isSpace c with
          | false => rfl
          | true => simp [hs, hc] at h
        rw [if_neg hc, if_neg h.1, strip, lstrip_cons_nonspace c cs hns, rstrip_cons_of_nonblank _ _ hb']

/-- hypothesis of the inverse theorem, as the property states it minus the two clauses that only
concern how `trimmed` reads `t` (they are not needed): no line starts with a full stop, no later line
starts with white space other than U+0020, and (K4) the first line is not blank -/
def invertibleCore (t : Str) : Bool :=
  match splitlines t with
  | [] => false
  | l0 :: ls => !isBlank l0 && ls.all okLine

theorem invertible_imp_core (t : Str) (h : invertible t = true) (hf : firstNotBlank t = true) :
    invertibleCore t = true := by
  unfold invertible at h
  unfold firstNotBlank at hf
  unfold invertibleCore
  cases hs : splitlines t with
  | nil => rw [hs] at h; cases h
  | cons l0 ls =>
    rw [hs] at h hf
    simp only [Bool.and_eq_true, List.all_eq_true] at h ⊢
    refine ⟨hf, ?_⟩
    intro l hl
    have := h.1.1.2 l hl
    simpa [okLine] using this

theorem dec_joinNlSp (f : Str) (ps : List Str) (hf : NoB f) (hfne : f ≠ []) (hps : ∀ q ∈ ps, GoodPiece q) :
    fromFormattedText (joinNlSp (f :: ps)) = joinNl (strip f :: ps.map fun q => decLine (' ' :: q)) := by
  obtain ⟨r, hr⟩ := joinNlSp_head ps
  have hne : (joinNlSp (f :: ps)).isEmpty = false := by
    cases f with
    | nil => exact absurd rfl hfne
    | cons a as => rw [hr]; rfl
  simp only [fromFormattedText, lineSeparated, hne, Bool.false_eq_true, if_false,
    splitlines_joinNlSp f ps hf (.inl hfne) (fun q hq => ⟨(hps q hq).noB, (hps q hq).ne⟩), fromFormattedLines, List.map_map]
  rfl

/-- for every text whose first line is not blank, with no line starting with a full stop and no later line starting
with a tab or other non-U+0020 white space, `from_formatted_text(as_formatted_text(t))` is `t` with the first line
trimmed and trailing blanks removed from the other lines (space-indented lines keep their indentation). -/
theorem inverse_core (t : Str) (h : invertibleCore t = true) :
    fromFormattedText (asFormattedText t) = trimmed t := by
  unfold invertibleCore at h
  unfold trimmed
  cases hs : splitlines t with
  | nil => rw [hs] at h; cases h
  | cons l0 ls =>
    rw [hs] at h
    simp only [Bool.and_eq_true, Bool.not_eq_true', List.all_eq_true] at h
    obtain ⟨hb0, hls⟩ := h
    have hnoB : ∀ l ∈ l0 :: ls, NoB l := fun l hl => splitlines_noB t l (hs ▸ hl)
    have he0 : encLine l0 = l0 := if_neg (by rw [hb0]; decide)
    rw [asFormattedText_of_lines hs, asFormattedLines, List.map_cons, he0,
      dec_joinNlSp l0 _ (hnoB l0 (.head _)) (fun e => by rw [e] at hb0; cases hb0)
        (encPieces ls fun l hl => hnoB l (.tail _ hl)), List.map_map]
    exact congrArg (fun x => joinNl (strip l0 :: x)) (List.map_congr_left fun l hl => decLine_enc l (hls l hl))

/-- **C20 inverse (K4 hypothesis)**: `inverse_core` under the hypothesis as the property states it -/
theorem inverse_partial (t : Str) (h : invertible t = true) (hf : firstNotBlank t = true) :
    (model t).decEnc = trimmed t :=
  inverse_core t (invertible_imp_core t h hf)

/-- non-vacuity: verbatim lines, blank lines, trailing blanks, a dot-only verbatim line -/
example : invertible "a \n  x  \n\n .\nb".toList = true ∧ firstNotBlank "a \n  x  \n\n .\nb".toList = true ∧
    (model "a \n  x  \n\n .\nb".toList).decEnc = "a\n  x\n\n .\nb".toList := by
  -- read the literals as character lists: the kernel then decodes no UTF-8
  rw [String.toList_ofList, String.toList_ofList]
  decide +kernel

/-- non-vacuity: blank, whitespace-only and form-feed lines -/
example : asFormattedText "a\n\n \t \nb\x0cc".toList = "a\n .\n .\n b\n c".toList := by
  rw [String.toList_ofList, String.toList_ofList]
  decide +kernel
/-- K4: a blank first line comes back as a full stop -/
example : (model "\nx".toList).decEnc = ".\nx".toList := by decide +kernel
/-- K5: of two trailing markers each encoding drops one -/
example : (model "x\n .\n .".toList).e1 = "x\n .".toList ∧ (model "x\n .\n .".toList).e2 = "x".toList := by
  rw [String.toList_ofList, String.toList_ofList]
  decide +kernel

/-! ## the fixpoint clause -/

/-! ### trailing empty pieces -/

def trailingEmpty : List Str → Nat
  | [] => 0
  | l :: ls =>
    let n := trailingEmpty ls
    if n == ls.length then (if l.isEmpty then n + 1 else n) else n

theorem trailingEmpty_ge_tail (l : Str) (ls : List Str) : trailingEmpty ls ≤ trailingEmpty (l :: ls) := by
  show _ ≤ if _ then (if _ then _ else _) else _
  split
  · split
    · exact Nat.le_succ _
    · exact Nat.le_refl _
  · exact Nat.le_refl _

/-- dropping a trailing empty piece twice drops no more than once, unless there were two -/
theorem dropLastEmpty_idem (ds : List Str) (h : trailingEmpty ds ≤ 1) :
    dropLastEmpty (dropLastEmpty ds) = dropLastEmpty ds := by
  induction ds with
  | nil => rfl
  | cons l ls ih =>
    cases ls with
    | nil =>
      cases l with
      | nil => rfl
      | cons _ _ => rfl
    | cons m ms =>
      have ih := ih (Nat.le_trans (trailingEmpty_ge_tail l (m :: ms)) h)
      show dropLastEmpty (l :: dropLastEmpty (m :: ms)) = l :: dropLastEmpty (m :: ms)
      cases hd : dropLastEmpty (m :: ms) with
      | nil =>
        -- the list is `[l, []]`, and `l` is not a second trailing empty piece
        obtain ⟨rfl, rfl⟩ := dropLastEmpty_eq_nil hd
        exact dropLastEmpty_cons l [] fun e => by subst e; exact absurd h (by decide)
      | cons x xs =>
        rw [hd] at ih
        exact congrArg (l :: ·) ih

/-! ### canonical decoded lines -/

/-- a decoded line that encoding and decoding give back -/
structure Canon (d : Str) : Prop where
  noB : NoB d
  fixed : decLine (' ' :: encLine d) = d

theorem canon_nil : Canon [] := ⟨(fun _ h => by cases h), (by decide)⟩

theorem canon_stripped (d : Str) (hB : NoB d) (h1 : d ≠ []) (h2 : headP isSpace d = false) (h3 : rstrip d = d)
    (h4 : d ≠ ['.']) : Canon d := by
  refine ⟨hB, ?_⟩
  have hb : isBlank d = false := isBlank_of_head h2 h1
  cases d with
  | nil => exact absurd rfl h1
  | cons c cs =>
    have hc : isSpace c = false := by simpa [headP] using h2
    have hcsp : c ≠ ' ' := fun e => by rw [e, sp_space] at hc; cases hc
    have hcs : rstrip cs = cs := by rw [rstrip_cons_of_nonblank _ _ hb] at h3; exact (List.cons.inj h3).2
    rw [encLine, if_neg (by rw [hb]; simp), decLine_sp c cs hb, if_neg hcsp, hcs]
    by_cases hd : c = '.'
    · rw [if_pos hd, if_neg (fun e => h4 (by rw [hd, e]))]
    · rw [if_neg hd, strip, lstrip_cons_nonspace c cs hc, h3]

theorem canon_verbatim (d : Str) (hB : NoB d) (h1 : startsWith d [' '] = true) (h3 : rstrip d = d) : Canon d := by
  refine ⟨hB, ?_⟩
  have : okLine d = true := by
    cases d with
    | nil => simp [startsWith] at h1
    | cons c cs =>
      have : c = ' ' := by simpa [startsWith] using h1
      subst this
      simp [okLine, startsWith, headP]
  rw [decLine_enc d this, h3]

/-- what `conformant` (Props/C20.lean) asks of every line after the first -/
def confLine (l : Str) : Bool :=
  startsWith l [' '] && !isBlank l && (isMarker l || (!startsWith l [' ', '.'] && strip l != ['.']))

theorem eq_marker {c : Char} {cs : Str} (e : ' ' :: c :: cs = [' ', '.']) : c = '.' ∧ cs = [] := by
  cases e; exact ⟨rfl, rfl⟩

theorem decLine_canon (l : Str) (hB : NoB l) (h : confLine l = true) :
    Canon (decLine l) ∧ ((decLine l).isEmpty = isMarker l) := by
  simp only [confLine, Bool.and_eq_true, Bool.not_eq_true', Bool.or_eq_true, bne_iff_ne, ne_eq] at h
  obtain ⟨⟨hsp, hnb⟩, hm⟩ := h
  cases l with
  | nil => cases hsp
  | cons a as =>
    have ha : a = ' ' := by simpa [startsWith] using hsp
    subst ha
    have hasb : isBlank as = false := by rw [isBlank_cons, sp_space] at hnb; exact hnb
    cases as with
    | nil => cases hasb
    | cons c cs =>
      have e2 : rstrip (c :: cs) = c :: rstrip cs := rstrip_cons_of_nonblank _ _ hasb
      rw [isMarker, rstrip_cons_of_nonblank _ _ hnb, e2] at hm ⊢
      rw [decLine_sp c cs hasb]
      rcases hm with hm | ⟨hd, hns⟩
      · -- the marker
        obtain ⟨rfl, h3⟩ := eq_marker (eq_of_beq hm)
        rw [if_neg (by decide), if_pos rfl, if_pos h3, h3]
        exact ⟨canon_nil, rfl⟩
      rw [startsWith_sp_cons, beq_eq_false_iff_ne] at hd
      rw [beq_eq_false_iff_ne.mpr fun e => hd (eq_marker e).1]
      by_cases hc : c = ' '
      · -- an indented line is kept verbatim
        rw [if_pos hc, ← e2]
        exact ⟨canon_verbatim _ (NoB_rstrip (NoB_tail hB)) (by rw [e2, hc]; simp [startsWith]) (rstrip_idem _),
          by rw [e2]; rfl⟩
      · have hne : strip (' ' :: c :: cs) ≠ [] := strip_ne_nil hnb
        rw [if_neg hc, if_neg hd, ← strip_sp]
        exact ⟨canon_stripped _ (NoB_strip hB) hne (strip_head _) (by rw [strip, rstrip_idem]) hns,
          List.isEmpty_eq_false_iff.mpr hne⟩

theorem trailing_eq (ls : List Str) (h : ∀ l ∈ ls, (decLine l).isEmpty = isMarker l) :
    trailingEmpty (ls.map decLine) = trailingMarkers ls := by
  induction ls with
  | nil => rfl
  | cons l ls ih =>
    have := ih (fun x hx => h x (by simp [hx]))
    simp only [List.map_cons, trailingEmpty, trailingMarkers, this, List.length_map, h l (by simp)]

theorem enc_joinNl (f : Str) (ds : List Str) (hf : f ≠ []) (hB : ∀ l ∈ f :: ds, NoB l) :
    asFormattedText (joinNl (f :: ds)) = asFormattedLines (f :: dropLastEmpty ds) := by
  have hne : (joinNl (f :: ds)).isEmpty = false := by
    cases f with
    | nil => exact absurd rfl hf
    | cons a as => cases ds <;> rfl
  rw [asFormattedText, hne, if_neg Bool.false_ne_true, splitlines_joinNl _ hB, dropLastEmpty_cons f ds hf]

/-- the first line of a decoded text: a non-empty trimmed line -/
structure FirstPiece (f : Str) : Prop where
  noB : NoB f
  ne : f ≠ []
  head : headP isSpace f = false
  rstripped : rstrip f = f

theorem firstPiece_strip {l : Str} (hB : NoB l) (hb : isBlank l = false) : FirstPiece (strip l) :=
  ⟨NoB_strip hB, strip_ne_nil hb, strip_head l, rstrip_idem _⟩

theorem dec_enc_canon (f : Str) (ds : List Str) (hf : FirstPiece f) (hds : ∀ d ∈ ds, Canon d) :
    fromFormattedText (asFormattedLines (f :: ds)) = joinNl (f :: ds) := by
  obtain ⟨hfB, hfne, hfh, hfr⟩ := hf
  have he0 : encLine f = f := by simp [encLine, isBlank_of_head hfh hfne]
  have hstrip : strip f = f := by unfold strip; rw [lstrip_of_head hfh, hfr]
  rw [asFormattedLines, List.map_cons, he0, dec_joinNlSp f _ hfB hfne (encPieces ds fun d hd => (hds d hd).noB), hstrip,
    List.map_map]
  exact congrArg (fun x => joinNl (f :: x)) ((List.map_congr_left fun d hd => (hds d hd).fixed).trans (List.map_id ds))

/-- the first encoding loses the trailing empty piece, the second has none to lose -/
theorem enc_dec_enc_canon (f : Str) (ds : List Str) (hf : FirstPiece f) (hds : ∀ d ∈ ds, Canon d)
    (hte : trailingEmpty ds ≤ 1) :
    asFormattedText (fromFormattedText (asFormattedText (joinNl (f :: ds)))) = asFormattedText (joinNl (f :: ds)) := by
  have hd1 : ∀ d ∈ dropLastEmpty ds, Canon d := fun d hd => hds d (dropLastEmpty_subset _ d hd)
  have hB : ∀ {es : List Str}, (∀ d ∈ es, Canon d) → ∀ l ∈ f :: es, NoB l := fun h =>
    List.forall_mem_cons.mpr ⟨hf.noB, fun d hd => (h d hd).noB⟩
  rw [enc_joinNl f ds hf.ne (hB hds), dec_enc_canon f _ hf hd1, enc_joinNl f _ hf.ne (hB hd1), dropLastEmpty_idem ds hte]

theorem dec_conformant (v : Str) (h : conformant v = true) :
    ∃ f ds, fromFormattedText v = joinNl (f :: ds) ∧ FirstPiece f ∧ (∀ d ∈ ds, Canon d) ∧
      trailingEmpty ds = trailingMarkers (splitlines v).tail := by
  unfold conformant at h
  cases hs : splitlines v with
  | nil => rw [hs] at h; cases h
  | cons l0 ls =>
    rw [hs] at h
    simp only [Bool.and_eq_true, Bool.not_eq_true', List.all_eq_true] at h
    obtain ⟨hb0, hls⟩ := h
    have hnoB : ∀ l ∈ l0 :: ls, NoB l := fun l hl => splitlines_noB v l (hs ▸ hl)
    have hcan : ∀ l ∈ ls, Canon (decLine l) ∧ ((decLine l).isEmpty = isMarker l) := fun l hl =>
      decLine_canon l (hnoB l (.tail _ hl)) (by simpa [confLine] using hls l hl)
    refine ⟨strip l0, ls.map decLine, fromFormattedText_of_lines hs, firstPiece_strip (hnoB l0 (.head _)) hb0, ?_,
      trailing_eq ls fun l hl => (hcan l hl).2⟩
    intro d hd
    obtain ⟨x, hx, rfl⟩ := List.mem_map.mp hd
    exact (hcan x hx).1

/-- **C20 fixpoint (K5 hypothesis)** — for every policy-conformant field value ending in at most one
blank-line marker, `enc(dec(enc(dec v))) = enc(dec v)`. -/
theorem fixpoint_partial (v : Str) (h : conformant v = true) (hk : atMostOneTrailingMarker v = true) :
    (model v).e2 = (model v).e1 := by
  obtain ⟨f, ds, e, hf, hds, hte⟩ := dec_conformant v h
  show asFormattedText (fromFormattedText (asFormattedText (fromFormattedText v))) = asFormattedText (fromFormattedText v)
  rw [e]
  exact enc_dec_enc_canon f ds hf hds (hte ▸ of_decide_eq_true hk)

/-- non-vacuity: a conformant value with markers, a verbatim line, a tab-indented line and one trailing marker -/
example : conformant "a \n  x  \n .\n \tb.\n . ".toList = true ∧
    atMostOneTrailingMarker "a \n  x  \n .\n \tb.\n . ".toList = true ∧
    (model "a \n  x  \n .\n \tb.\n . ".toList).e1 = "a\n  x\n .\n b.".toList := by
  rw [String.toList_ofList, String.toList_ofList]
  decide +kernel

/-! ### the renderings of the description and license fields -/

theorem joinNlSp_snoc (ps : List Str) (p : Str) :
    ∃ pre, ∀ q', joinNlSp (p :: (ps ++ [q'])) = pre ++ q' := by
  induction ps generalizing p with
  | nil => exact ⟨p ++ ['\n', ' '], fun q' => by simp [joinNlSp]⟩
  | cons a as ih =>
    obtain ⟨pre, h⟩ := ih a
    exact ⟨p ++ '\n' :: ' ' :: pre, fun q' => by
      show p ++ '\n' :: ' ' :: joinNlSp (a :: (as ++ [q'])) = _
      rw [h]; simp⟩

/-- right-stripping a `"\n "`-join of good pieces only strips the last piece -/
theorem safe_rstrip_joinNlSp (p : Str) (ps : List Str) (hp : GoodPiece p) (hps : ∀ q ∈ ps, GoodPiece q) :
    safe (rstrip (joinNlSp (p :: ps))) = true := by
  rcases List.eq_nil_or_concat ps with rfl | ⟨init, last, rfl⟩
  · exact safe_single _ (NoB_rstrip hp.noB)
  · have hl := hps last (by simp)
    obtain ⟨pre, h⟩ := joinNlSp_snoc init p
    rw [List.concat_eq_append, h, rstrip_append_nonblank _ _ hl.nonblank, ← h]
    apply safe_joinNlSp p _ hp.noB hp.ne
    intro q hq
    rcases List.mem_append.mp hq with hq | hq
    · exact hps q (by simp [hq])
    · rw [List.mem_singleton.mp hq]; exact good_rstrip hl

theorem asFormattedText_pieces (t : Str) (h : t ≠ []) :
    ∃ q qs, (∀ x ∈ q :: qs, GoodPiece x) ∧ asFormattedText t = joinNlSp (q :: qs) := by
  have hg := encPieces _ (splitlines_noB t)
  cases hs : splitlines t with
  | nil => exact absurd hs (splitlines_ne_nil t h)
  | cons l ls => rw [hs] at hg; exact ⟨_, _, hg, asFormattedText_of_lines hs⟩

/-- what `DescriptionField.dumps()` returns: the synopsis `s` alone, or `s`, a line break and the `"\n "`-join of
good pieces -/
def Rendered (s out : Str) : Prop :=
  out = s ∨ ∃ q qs, (∀ x ∈ q :: qs, GoodPiece x) ∧ out = s ++ '\n' :: ' ' :: joinNlSp (q :: qs)

theorem dumps_rendered (syn : Str) (text : Option Str) (h : ∀ t ∈ text, startsWith t [' '] = false) :
    Rendered (strip syn) (descriptionDumps syn text) := by
  unfold descriptionDumps
  simp only
  split
  · exact .inl rfl
  · rename_i t
    split
    · exact .inl rfl
    · rename_i ht
      obtain ⟨q, qs, hq, e⟩ := asFormattedText_pieces t (fun e => ht (by rw [e]; rfl))
      rw [h t rfl]
      exact .inr ⟨q, qs, hq, by simp only [Bool.false_eq_true, if_false, e]⟩

theorem safe_rendered {s out : Str} (hs : NoB s) (h : Rendered s out) : safe out = true := by
  rcases h with rfl | ⟨q, qs, hq, rfl⟩
  · exact safe_single _ hs
  · unfold safe
    rw [show s ++ '\n' :: ' ' :: joinNlSp (q :: qs) = joinNlSp (s :: q :: qs) from rfl,
      splitlines_joinNlSp s (q :: qs) hs (.inr (by simp)) fun r hr => ⟨(hq r hr).noB, (hq r hr).ne⟩]
    exact safe_tail _ fun x hx => (hq x hx).nonblank

theorem safe_strip_rendered {s out : Str} (hs : NoB s) (hh : headP isSpace s = false) (h : Rendered s out) :
    safe (strip out) = true := by
  rcases h with rfl | ⟨q, qs, hq, rfl⟩
  · exact safe_single _ (NoB_strip hs)
  · obtain ⟨r, hr⟩ := joinNlSp_head qs
    unfold strip
    by_cases hne : s = []
    · -- an empty synopsis: the line break and the space go, and the white space in front of the first piece
      subst hne
      have e : lstrip ([] ++ '\n' :: ' ' :: joinNlSp (q :: qs)) = joinNlSp (lstrip q :: qs) := by
        have hnl : isSpace '\n' = true := by decide
        simp only [List.nil_append, lstrip, hnl, sp_space, if_true]
        rw [hr q, lstrip_append_nonblank _ _ (hq q (by simp)).nonblank, ← hr]
      rw [e]
      exact safe_rstrip_joinNlSp _ _ (good_lstrip (hq q (by simp))) fun x hx => hq x (by simp [hx])
    · have e : s ++ '\n' :: ' ' :: joinNlSp (q :: qs) = joinNlSp (s :: q :: qs) := rfl
      have hl : lstrip (joinNlSp (s :: q :: qs)) = joinNlSp (s :: q :: qs) := by
        cases s with
        | nil => exact absurd rfl hne
        | cons c cs => exact lstrip_cons_nonspace c _ (by simpa [headP] using hh)
      rw [e, hl]
      exact safe_rstrip_joinNlSp _ _ ⟨hs, hne, isBlank_of_head hh hne⟩ hq

theorem firstLine_single (p : Str) (hB : NoB p) (hne : p ≠ []) : firstLine p = p := by
  unfold firstLine splitlines; rw [splitlinesAux_single p hB hne]; rfl

theorem firstLine_nl (p rest : Str) (hB : NoB p) : firstLine (p ++ '\n' :: rest) = p := by
  unfold firstLine splitlines; rw [splitlinesAux_line p rest hB]; rfl

theorem firstLine_rendered {s out : Str} (hs : NoB s) (hne : s ≠ []) (h : Rendered s out) : firstLine out = s := by
  rcases h with rfl | ⟨q, qs, _, rfl⟩
  · exact firstLine_single _ hs hne
  · exact firstLine_nl _ _ hs

theorem firstLine_strip_rendered {s out : Str} (hs : NoB s) (hne : s ≠ []) (hh : headP isSpace s = false)
    (hr : rstrip s = s) (h : Rendered s out) : firstLine (strip out) = s := by
  have hst : ∀ x, strip (s ++ x) = rstrip (s ++ x) := fun x => by
    cases s with
    | nil => exact absurd rfl hne
    | cons c cs => exact congrArg rstrip (lstrip_cons_nonspace c _ (by simpa [headP] using hh))
  rcases h with h | ⟨q, qs, hq, rfl⟩
  · rw [h, ← List.append_nil s, hst, List.append_nil, hr]; exact firstLine_single _ hs hne
  · obtain ⟨r, hr'⟩ := joinNlSp_head qs
    have hb : isBlank ('\n' :: ' ' :: joinNlSp (q :: qs)) = false := by
      rw [hr' q, isBlank_cons, isBlank_cons, isBlank_append, (hq q (by simp)).nonblank]; simp
    rw [hst, rstrip_append_nonblank _ _ hb, rstrip_cons_of_nonblank _ _ hb]
    exact firstLine_nl _ _ hs

theorem fromFormattedLines_not_sp (ls : List Str) : startsWith (fromFormattedLines ls) [' '] = false := by
  cases ls with
  | nil => rfl
  | cons l ls =>
    show startsWith (joinNl (strip l :: ls.map decLine)) [' '] = false
    have hh := strip_head l
    cases hl : strip l with
    | nil => cases ls <;> rfl
    | cons c cs => rw [hl] at hh; cases ls <;> exact startsWith_sp_of_head _ hh

theorem desc_syn_noB (v : Str) : NoB (descriptionFromValue v).1 := by
  unfold descriptionFromValue lineSeparated
  split
  · exact fun _ h => by cases h
  · rename_i l ls h
    split at h
    · cases h
    · exact NoB_strip (splitlines_noB v l (by rw [h]; simp))

theorem desc_text_not_sp (v : Str) : ∀ t ∈ (descriptionFromValue v).2, startsWith t [' '] = false := by
  unfold descriptionFromValue
  split
  · exact fun _ h => by cases h
  · rename_i l ls _
    intro t ht
    simp only at ht
    split at ht
    · cases ht
    · cases ht; exact fromFormattedLines_not_sp ls

theorem lic_text_not_sp (v : Str) : ∀ t ∈ (licenseFromValue v).2, startsWith t [' '] = false := by
  intro t ht
  obtain ⟨t0, _, rfl⟩ := Option.map_eq_some_iff.mp ht
  split
  · rename_i h; rw [List.isEmpty_iff.mp h]; rfl
  · exact startsWith_sp_of_head _ (lstrip_head t0)

theorem safe_desc (v : Str) : safe (descriptionRoundtrip v) = true :=
  safe_rendered (NoB_strip (desc_syn_noB v)) (dumps_rendered _ _ (desc_text_not_sp v))

theorem safe_lic (v : Str) : safe (licenseRoundtrip v) = true :=
  safe_strip_rendered (NoB_strip (desc_syn_noB v)) (strip_head _) (dumps_rendered _ _ (lic_text_not_sp v))

/-- **C20 first-line clause** — when the first line of `v` is not blank, the rendering of the
description field and of the license field built from `v` keep the trimmed first line (synopsis,
short name) as their own first line. -/
theorem first_line (v : Str) (h : firstNotBlank v = true) :
    firstLine (descriptionRoundtrip v) = strip (firstLine v) ∧ firstLine (licenseRoundtrip v) = strip (firstLine v) := by
  unfold firstNotBlank at h
  cases hs : splitlines v with
  | nil => rw [hs] at h; cases h
  | cons l0 ls =>
    rw [hs] at h
    have hb0 : isBlank l0 = false := by simpa using h
    have hd : (descriptionFromValue v).1 = strip l0 := by rw [descriptionFromValue, lineSeparated_of_lines hs]
    have hfl : firstLine v = l0 := by unfold firstLine; rw [hs]; rfl
    have hss := strip_idem l0
    have hB := NoB_strip (desc_syn_noB v)
    have hne' : strip (descriptionFromValue v).1 ≠ [] := by rw [hd, hss]; exact strip_ne_nil hb0
    rw [hfl, ← hss, ← hd]
    exact ⟨firstLine_rendered hB hne' (dumps_rendered _ _ (desc_text_not_sp v)),
      firstLine_strip_rendered hB hne' (strip_head _) (rstrip_idem _) (dumps_rendered _ _ (lic_text_not_sp v))⟩

/-- **C20, all clauses** — for every Unicode text the model satisfies the property with the
hypotheses of the two known findings added (K4: first line not blank in the inverse clause;
K5: at most one trailing marker in the fixpoint clause). -/
theorem sound_partial (t : Str) : holdsOnPartial t (model t) = true := by
  unfold holdsOnPartial
  have h1 : safe (model t).enc = true := safe_enc t
  have h2 : safe (model t).ft = true := safe_ft t
  have h3 : safe (model t).desc = true := safe_desc t
  have h4 : safe (model t).lic = true := safe_lic t
  have h5 : (!(invertible t && firstNotBlank t) || (model t).decEnc == trimmed t) = true := by
    cases hi : (invertible t && firstNotBlank t) with
    | false => rfl
    | true =>
      simp only [Bool.and_eq_true] at hi
      simp [inverse_partial t hi.1 hi.2]
  have h6 : (!(conformant t && atMostOneTrailingMarker t) || (model t).e2 == (model t).e1) = true := by
    cases hi : (conformant t && atMostOneTrailingMarker t) with
    | false => rfl
    | true =>
      simp only [Bool.and_eq_true] at hi
      simp [fixpoint_partial t hi.1 hi.2]
  have h7 : (!(match splitlines t with | l0 :: _ => !isBlank l0 | [] => false) ||
      (firstLine (model t).desc == strip (firstLine t) && firstLine (model t).lic == strip (firstLine t))) = true := by
    cases hi : (match splitlines t with | l0 :: _ => !isBlank l0 | [] => false) with
    | false => rfl
    | true =>
      have := first_line t hi
      show (!true || (firstLine (descriptionRoundtrip t) == _ && firstLine (licenseRoundtrip t) == _)) = true
      simp [this.1, this.2]
  rw [h1, h2, h3, h4, h5, h6]
  simp only [Bool.true_and]
  exact h7

end Props.C20
