/-
C13 — the fixpoint, paragraph level: a paragraph object built from a paragraph of the grammar is rendered as the
canonical paragraph (typed fields in class order under their conventional names, then the unknown fields).
-/
import DebInspector.Thm.C13F
import DebInspector.Thm.C09D
import DebInspector.Thm.C06H

namespace Props.C13P
open Py Model.Deb822 Model.Debcon Model.Copyright Props.C09 Props.C09G Props.C13F Proofs.Splitlines
open Props.Dep5 hiding joinNl

/-! ### the canonical paragraph: its fields, in order, come from the paragraph -/

def non5 (p : Dep5.Para) : List Field := p.filter (·.kind != 5)
def is5 (p : Dep5.Para) : List Field := p.filter (·.kind == 5)

def pick (p : Dep5.Para) (n : Str) : Option Field := (non5 p).find? fun f => fieldKey f == n

/-- the fields in the order they are rendered: typed fields in class order, then the unknown fields -/
def src (K : Kind) (p : Dep5.Para) : List Field := ((typedFields K).filterMap fun nc => pick p nc.1) ++ is5 p

/-- the paragraph as `dumps` writes it -/
def canonPara (K : Kind) (p : Dep5.Para) : Dep5.Para := (src K p).map canonField

/-- no unknown field has continuation lines (outside finding K1) -/
def noMultiExtra (p : Dep5.Para) : Prop := ∀ f ∈ p, f.kind = 5 → f.conts = []

/-- the rendered value under a typed name: empty when the paragraph has no such field -/
def valOf (p : Dep5.Para) (n : Str) : Str :=
  match pick p n with
  | some f => rawVal (canonField f)
  | none => []

theorem paraOk_ne {p : Dep5.Para} (hp : paraOk p = true) : p ≠ [] := by
  rintro rfl
  cases hp

theorem mem_is5 {p : Dep5.Para} {f : Field} : f ∈ is5 p ↔ f ∈ p ∧ f.kind = 5 := by
  simp only [is5, List.mem_filter, beq_iff_eq]

theorem is5_keys_nodup (p : Dep5.Para) (hp : paraOk p = true) : ((is5 p).map fieldKey).Nodup :=
  List.Nodup.sublist (List.Sublist.map _ List.filter_sublist) (keys_nodup p hp)

theorem is5_not_typed (p : Dep5.Para) (K : Kind) (hp : paraOk p = true) (hK : paraKind p = some K) (f : Field) (hf : f ∈ is5 p) :
    fieldKey f ∉ (typedFields K).map (·.1) := by
  obtain ⟨hfp, hk⟩ := mem_is5.mp hf
  intro hm
  have := extra_not_known K (kind_ne_catchall hp hK) f (paraOk_fields hp f hfp) hk
  rw [List.contains_iff_mem.mpr hm] at this
  cases this

theorem pick_some (p : Dep5.Para) (K : Kind) (hp : paraOk p = true) (hK : paraKind p = some K)
    (nc : Str × String) (hnc : nc ∈ typedFields K) (f : Field) (h : pick p nc.1 = some f) :
    f ∈ p ∧ f.kind ≠ 5 ∧ fieldKey f = nc.1 ∧ nc.2 = clsOf f.kind := by
  unfold pick at h
  have hkey : fieldKey f = nc.1 := by have := List.find?_some h; exact eq_of_beq this
  obtain ⟨hfp, hk5⟩ := List.mem_filter.mp (List.mem_of_find?_eq_some h)
  have h5 : f.kind ≠ 5 := by simpa using hk5
  refine ⟨hfp, h5, hkey, ?_⟩
  -- the converter class listed for the name is the class of the field's kind
  have htab := (allowed_table K (paraKind_mem hp hK) _ (known_allowed p K hp hK f hfp h5)).1
  rwa [show replaceChar '-' '_' (normLabel f.label) = nc.1 from hkey,
    Proofs.Assoc.lookup_of_mem (typedFields K) (typed_nodup K (paraKind_mem hp hK)) nc hnc, Option.some.injEq] at htab

theorem pick_none (p : Dep5.Para) (n : Str) (h : pick p n = none) : ∀ f ∈ p, f.kind ≠ 5 → fieldKey f ≠ n := by
  intro f hf h5 e
  have := List.find?_eq_none.mp h f (List.mem_filter.mpr ⟨hf, by simpa using h5⟩)
  simp [e] at this

theorem src_mem (p : Dep5.Para) (K : Kind) (hp : paraOk p = true) (hK : paraKind p = some K) :
    ∀ f ∈ src K p, f ∈ p := by
  intro f hf
  rcases List.mem_append.mp hf with h | h
  · obtain ⟨nc, hnc, hpk⟩ := List.mem_filterMap.mp h
    exact (pick_some p K hp hK nc hnc f hpk).1
  · exact (mem_is5.mp h).1

theorem key_inj (p : Dep5.Para) (hp : paraOk p = true) (f g : Field) (hf : f ∈ p) (hg : g ∈ p) (h : fieldKey f = fieldKey g) :
    f = g :=
  Proofs.Assoc.eq_of_key_eq (keys_nodup p hp) hf hg h

theorem pick_of_mem (p : Dep5.Para) (K : Kind) (hp : paraOk p = true) (hK : paraKind p = some K)
    (f : Field) (hfp : f ∈ p) (h5 : f.kind ≠ 5) : ∃ nc ∈ typedFields K, pick p nc.1 = some f := by
  have hki := known_iff p K hp hK f hfp
  rw [show (f.kind != 5) = true by simpa using h5] at hki
  obtain ⟨nc, hnc, hnk⟩ := List.mem_map.mp (List.contains_iff_mem.mp hki)
  cases hpk : pick p nc.1 with
  | none => exact absurd hnk.symm (pick_none p nc.1 hpk f hfp h5)
  | some g =>
    obtain ⟨hgp, _, hgk, _⟩ := pick_some p K hp hK nc hnc g hpk
    exact ⟨nc, hnc, key_inj p hp g f hgp hfp (by rw [hgk, hnk]) ▸ hpk⟩

theorem src_complete (p : Dep5.Para) (K : Kind) (hp : paraOk p = true) (hK : paraKind p = some K) :
    ∀ f ∈ p, f ∈ src K p := by
  intro f hfp
  by_cases h5 : f.kind = 5
  · exact List.mem_append.mpr (Or.inr (mem_is5.mpr ⟨hfp, h5⟩))
  · obtain ⟨nc, hnc, hpk⟩ := pick_of_mem p K hp hK f hfp h5
    exact List.mem_append.mpr (Or.inl (List.mem_filterMap.mpr ⟨nc, hnc, hpk⟩))

theorem src_ne (p : Dep5.Para) (K : Kind) (hp : paraOk p = true) (hK : paraKind p = some K) :
    src K p ≠ [] := by
  obtain ⟨f, fs, rfl⟩ := List.exists_cons_of_ne_nil (paraOk_ne hp)
  exact List.ne_nil_of_mem (src_complete _ K hp hK f List.mem_cons_self)

theorem src_keys_nodup (p : Dep5.Para) (K : Kind) (hp : paraOk p = true) (hK : paraKind p = some K) :
    ((src K p).map fieldKey).Nodup := by
  unfold src
  rw [List.map_append, List.nodup_append]
  refine ⟨?_, is5_keys_nodup p hp, ?_⟩
  · -- picked fields carry the (distinct) typed names they were picked for
    exact (Proofs.Assoc.filterMap_map_sublist _ fieldKey (·.1) _ fun nc hnc f hpk => (pick_some p K hp hK nc hnc f hpk).2.2.1).nodup
      (typed_nodup K (paraKind_mem hp hK))
  · intro a ha b hb hab
    subst hab
    obtain ⟨f, hf, rfl⟩ := List.mem_map.mp ha
    obtain ⟨nc, hnc, hpk⟩ := List.mem_filterMap.mp hf
    obtain ⟨g, hg, hgk⟩ := List.mem_map.mp hb
    apply is5_not_typed p K hp hK g hg
    rw [hgk, (pick_some p K hp hK nc hnc f hpk).2.2.1]
    exact List.mem_map.mpr ⟨nc, hnc, rfl⟩

/-! ### the dictionary of the paragraph object -/

theorem typed_at (p : Dep5.Para) (K : Kind) (hp : paraOk p = true) (hK : paraKind p = some K)
    (nc : Str × String) (hnc : nc ∈ typedFields K) :
    fromValue nc.2 (((p.filter (·.kind != 5)).map fun f => (fieldKey f, lstrip (rawVal f))).lookup nc.1) =
      match pick p nc.1 with
      | some f => expectedFV f
      | none => fromValue nc.2 none := by
  rw [show p.filter (·.kind != 5) = non5 p from rfl, Proofs.Assoc.lookup_map_find (non5 p) fieldKey (fun f => lstrip (rawVal f)) nc.1]
  show fromValue nc.2 ((pick p nc.1).map fun f => lstrip (rawVal f)) = _
  cases hpk : pick p nc.1 with
  | none => rfl
  | some f =>
    obtain ⟨hfp, h5, _, hcls⟩ := pick_some p K hp hK nc hnc f hpk
    rw [hcls]
    exact typed_value f (paraOk_fields hp f hfp) h5

theorem dumps_typed_at (p : Dep5.Para) (K : Kind) (hp : paraOk p = true) (hK : paraKind p = some K)
    (nc : Str × String) (hnc : nc ∈ typedFields K) :
    dumps (match pick p nc.1 with
      | some f => expectedFV f
      | none => fromValue nc.2 none) = valOf p nc.1 := by
  unfold valOf
  cases hpk : pick p nc.1 with
  | none => exact absent_dumps K (paraKind_mem hp hK) nc hnc
  | some f =>
    obtain ⟨hfp, h5, _, _⟩ := pick_some p K hp hK nc hnc f hpk
    exact dumps_eq f (paraOk_fields hp f hfp) h5

theorem asFormattedText_line (s : Str) (hpl : plain s = true) (hne : s ≠ []) (htr : trimmed s = true) :
    asFormattedText s = s := by
  have hsl : splitlines s = [s] := splitlinesAux_single s (plain_noB _ hpl) hne
  simp only [asFormattedText, List.isEmpty_eq_false_iff.mpr hne, Bool.false_eq_true, if_false, asFormattedLines, hsl,
    List.map_cons, List.map_nil, joinNlSp, encLine_nonblank s (nonblank_trimmed s hne htr)]

theorem extra_parts (f : Field) (hk : f.kind = 5) (h : fieldOk f = true) :
    f.first ≠ [] ∧ plain f.first = true ∧ trimmed f.first = true := by
  simp only [fieldOk, hk, Bool.and_eq_true, Bool.not_eq_true', List.isEmpty_eq_false_iff] at h
  exact ⟨h.2.1, h.1.1.2, h.1.2⟩

theorem extraOut_first (f : Field) (hk : f.kind = 5) (h : fieldOk f = true) : extraOut (.s f.first) = .s f.first := by
  obtain ⟨hne, hpl, htr⟩ := extra_parts f hk h
  simp only [extraOut, List.isEmpty_eq_false_iff.mpr hne, Bool.false_eq_true, if_false, asFormattedText_line f.first hpl hne htr]

/-- the dictionary form of a paragraph object built from a paragraph of the grammar -/
theorem toDict_eq (p : Dep5.Para) (K : Kind) (hp : paraOk p = true) (hK : paraKind p = some K)
    (hx : noMultiExtra p) (q : Model.Copyright.Para)
    (hqf : q.fields = (paraOf p K).fields) (hqe : q.extra = (paraOf p K).extra) :
    toDict q = ((typedFields K).map fun nc => (nc.1, XV.s (valOf p nc.1))) ++ (is5 p).map fun f => (fieldKey f, XV.s f.first) := by
  have hqe' : q.extra = (is5 p).map fun f => (fieldKey f, XV.s (expectedExtra f)) := hqe
  have hkeys : q.fields.map (·.1) = (typedFields K).map (·.1) := by rw [hqf, paraOf, List.map_map]; rfl
  rw [Props.C07.toDict_fresh q (by rw [hqe', List.map_map]; exact is5_keys_nodup p hp) (by
    intro nv hnv
    rw [hqe'] at hnv
    obtain ⟨f, hf, rfl⟩ := List.mem_map.mp hnv
    rw [hkeys]
    exact is5_not_typed p K hp hK f hf), hqf, hqe', paraOf, List.map_map, List.map_map]
  congr 1
  · apply List.map_congr_left
    intro nc hnc
    simp only [Function.comp]
    rw [typed_at p K hp hK nc hnc, dumps_typed_at p K hp hK nc hnc]
  · apply List.map_congr_left
    intro f hf
    obtain ⟨hfp, hk⟩ := mem_is5.mp hf
    simp only [Function.comp, expectedExtra, hx f hfp hk, List.map_nil, Dep5.joinNl, extraOut_first f hk (paraOk_fields hp f hfp)]

/-! ### rendering the dictionary gives the canonical paragraph -/

theorem fieldLines_facts (f : Field) (h : fieldOk f = true) :
    ∀ l ∈ fieldLines f, l ≠ [] ∧ lastP isSpace l = false := by
  have hconts := Props.C09D.conts_ok f h
  have htr := first_trimmed f h
  intro l hl
  rcases List.mem_cons.mp hl with rfl | hl
  · refine ⟨List.append_ne_nil_of_right_ne_nil _ (by split <;> simp), ?_⟩
    rw [lastP_append_ne _ _ _ (by split <;> simp)]
    split
    · rfl
    · next he =>
      rw [lastP_cons_ne_nil _ _ _ (by simp), lastP_cons_ne_nil _ _ _ (by rwa [List.isEmpty_iff] at he)]
      exact ((trimmed_iff _).mp htr).2
  · obtain ⟨t, ht, rfl⟩ := List.mem_map.mp hl
    have hok : Props.C06.lineOk (rawLine t) = true := by
      rcases hconts t ht with h1 | h1
      · exact (Props.C09D.rawLine_ok t h1).1
      · exact (Props.C09D.item_rawLine_ok t h1).1
    simp only [Props.C06.lineOk, Bool.and_eq_true, Bool.not_eq_true'] at hok
    exact ⟨rawLine_ne t, hok.2⟩

theorem joinNl_fieldLines (g : Field) (hne : g.first ≠ []) :
    joinNl (fieldLines g) = g.label ++ ':' :: ' ' :: rawVal g := by
  rw [fieldLines, rawVal, if_neg (by rwa [List.isEmpty_iff]),
    show g.label ++ ':' :: ' ' :: g.first = (g.label ++ [':', ' ']) ++ g.first by simp, joinNl_cons_append]
  simp

theorem rawVal_head (g : Field) (h : fieldOk g = true) (hne : g.first ≠ []) : headP isSpace (rawVal g) = false := by
  rw [rawVal, joinNl_headP _ _ _ hne]
  exact ((trimmed_iff _).mp (first_trimmed g h)).1

theorem key_ascii (f : Field) (h : fieldOk f = true) : isAsciiStr (fieldKey f) = true := by
  have hs := labelOk_shape f (fieldOk_base f h).1
  have hn := (normLabel_shape f.label hs.1 hs.2).2
  unfold fieldKey isAsciiStr replaceChar
  simp only [List.all_eq_true, List.mem_map, decide_eq_true_eq] at hn ⊢
  rintro c ⟨d, hd, rfl⟩
  have := alnum_range (hn d hd)
  simp only [Bool.and_eq_true, decide_eq_true_eq] at this
  by_cases e : d = '-'
  · simp [e]
  · simp only [e, if_false]; omega

theorem extra_rawVal (f : Field) (hk : f.kind = 5) (hc : f.conts = []) : rawVal (canonField f) = f.first := by
  rw [rawVal, (canon_extra f hk).1, (canon_extra f hk).2, hc]
  rfl

def entryOf (f : Field) : Str × Str := (fieldKey f, rawVal (canonField f))

theorem canon_value_facts (f : Field) (h : fieldOk f = true) :
    (rawVal (canonField f)).isEmpty = false ∧ isBlank (rawVal (canonField f)) = false ∧
    startsWith (rawVal (canonField f)) [' '] = false := by
  have hok := canon_fieldOk f h
  have hhead := rawVal_head _ hok (canon_first_ne f h)
  have hie := rawVal_ne _ hok
  exact ⟨hie, isBlank_of_head hhead (List.isEmpty_eq_false_iff.mp hie), startsWith_sp_of_head _ hhead⟩

theorem entries_eq (p : Dep5.Para) (K : Kind) (hp : paraOk p = true) (hK : paraKind p = some K)
    (hx : noMultiExtra p) (q : Model.Copyright.Para)
    (hqf : q.fields = (paraOf p K).fields) (hqe : q.extra = (paraOf p K).extra) :
    (toDict q).filterMap dumpedEntry = (src K p).map entryOf := by
  have hfo := paraOk_fields hp
  rw [toDict_eq p K hp hK hx q hqf hqe, List.filterMap_append, src, List.map_append, List.filterMap_map,
    List.filterMap_map, List.map_filterMap]
  congr 1
  · apply Proofs.Assoc.filterMap_congr
    intro nc hnc
    simp only [Function.comp, valOf]
    cases hpk : pick p nc.1 with
    | none => rfl
    | some f =>
      obtain ⟨hfp, _, hkey, _⟩ := pick_some p K hp hK nc hnc f hpk
      obtain ⟨h1, h2, _⟩ := canon_value_facts f (hfo f hfp)
      simp [dumpedEntry, h1, h2, entryOf, hkey]
  · rw [← List.filterMap_eq_map]
    apply Proofs.Assoc.filterMap_congr
    intro f hf
    obtain ⟨hfp, hk⟩ := mem_is5.mp hf
    obtain ⟨h1, h2, _⟩ := canon_value_facts f (hfo f hfp)
    rw [extra_rawVal f hk (hx f hfp hk)] at h1 h2
    simp [dumpedEntry, h1, h2, entryOf, extra_rawVal f hk (hx f hfp hk)]

theorem entry_line (f : Field) (h : fieldOk f = true) :
    Model.Control.normalizeName (replaceChar '_' '-' (entryOf f).1) ++ ':' :: ' ' ::
      (if startsWith (entryOf f).2 [' '] then (entryOf f).2.tail else (entryOf f).2) =
    joinNl (fieldLines (canonField f)) := by
  rw [joinNl_fieldLines _ (canon_first_ne f h), canon_label, entryOf, (canon_value_facts f h).2.2,
    if_neg Bool.false_ne_true, fieldKey, replace_inverse _ (label_no_us f h)]
  rfl

theorem renderPara_canon (K : Kind) (p : Dep5.Para) :
    renderPara (canonPara K p) = joinNl ((src K p).map fun f => joinNl (fieldLines (canonField f))) := by
  unfold renderPara canonPara
  rw [joinNl_eq, List.flatMap_map]
  exact (joinNl_flatMap (src K p) (fun f => fieldLines (canonField f)) (fun g _ => List.cons_ne_nil _ _)).symm

theorem strip_renderPara (P : Dep5.Para) (hne : P ≠ []) (hok : ∀ f ∈ P, fieldOk f = true) :
    strip (renderPara P) = renderPara P := by
  unfold renderPara
  rw [joinNl_eq]
  cases hP : P with
  | nil => exact absurd hP hne
  | cons f fs =>
    have hfl : (f :: fs).flatMap fieldLines = (f.label ++ (if f.first.isEmpty then [':'] else ':' :: ' ' :: f.first)) ::
        (f.conts.map rawLine ++ fs.flatMap fieldLines) := by
      simp [List.flatMap_cons, fieldLines]
    rw [hfl]
    have hfo := hok f (by rw [hP]; simp)
    have hlab : headP isAsciiAlpha f.label = true := (labelOk_shape f (fieldOk_base f hfo).1).1
    obtain ⟨c, cs, hc⟩ : ∃ c cs, f.label = c :: cs := by
      cases hl : f.label with
      | nil => rw [hl] at hlab; cases hlab
      | cons c cs => exact ⟨c, cs, rfl⟩
    rw [hc] at hlab ⊢
    apply strip_joinNl
    · simp
    · -- a letter is not white space
      show isSpace c = false
      have hal : (isAsciiAlnum c || c == '-') = true := by
        simp only [headP, isAsciiAlpha] at hlab
        simp [isAsciiAlnum, Char.isAlphanum, hlab]
      exact Props.C06.nameCh_not_space (c := c) (by simpa [Props.C06.nameCh] using hal)
    · intro l hl
      rw [← hc, ← hfl, ← hP] at hl
      obtain ⟨g, hg, hlg⟩ := List.mem_flatMap.mp (List.mem_of_getLast? hl)
      exact fieldLines_facts g (hok g hg) l hlg

theorem baseDumps_eq (p : Dep5.Para) (K : Kind) (hp : paraOk p = true) (hK : paraKind p = some K)
    (hx : noMultiExtra p) (q : Model.Copyright.Para)
    (hqf : q.fields = (paraOf p K).fields) (hqe : q.extra = (paraOf p K).extra) :
    baseDumps q = .ok (renderPara (canonPara K p)) := by
  have hfo : ∀ f ∈ src K p, fieldOk f = true := fun f hf => paraOk_fields hp f (src_mem p K hp hK f hf)
  have hascii : ((src K p).map entryOf).any (fun kv => !isAsciiStr kv.1) = false := by
    rw [List.any_eq_false]
    intro kv hkv
    obtain ⟨f, hf, rfl⟩ := List.mem_map.mp hkv
    simp [entryOf, key_ascii f (hfo f hf)]
  have hlines : (src K p).map ((fun kv : Str × Str => Model.Control.normalizeName (replaceChar '_' '-' kv.1) ++ ':' :: ' ' ::
      (if startsWith kv.2 [' '] then kv.2.tail else kv.2)) ∘ entryOf) =
      (src K p).map fun f => joinNl (fieldLines (canonField f)) :=
    List.map_congr_left fun f hf => entry_line f (hfo f hf)
  have hstrip : strip (renderPara (canonPara K p)) = renderPara (canonPara K p) :=
    strip_renderPara _ (fun e => src_ne p K hp hK (List.map_eq_nil_iff.mp e)) (by
      intro g hg
      obtain ⟨f, hf, rfl⟩ := List.mem_map.mp hg
      exact canon_fieldOk f (hfo f hf))
  unfold baseDumps
  simp only [entries_eq p K hp hK hx q hqf hqe, hascii, Bool.false_eq_true, if_false, List.map_map]
  rw [hlines, ← renderPara_canon, hstrip]

theorem license_name (p : Dep5.Para) (K : Kind) (hp : paraOk p = true) (hK : paraKind p = some K)
    (hKfl : K = .files ∨ K = .license) (q : Model.Copyright.Para) (hqf : q.fields = (paraOf p K).fields) :
    (licenseOf q).1.isEmpty = false := by
  refine license_name_ne p K hp hK q hqf ?_
  rcases hKfl with rfl | rfl
  · have hp' := hp
    simp only [paraOk, Bool.and_eq_true, hK] at hp'
    exact hp'.2.1.2
  · unfold paraKind at hK
    by_cases h1 : hasLabel p "format" = true
    · simp [h1] at hK
    · simp only [h1] at hK
      by_cases h2 : hasLabel p "files" = true
      · simp [h2] at hK
      · simp only [h2] at hK
        by_cases h3 : hasLabel p "license" = true
        · exact h3
        · simp [h3] at hK

theorem paraDumps_eq (p : Dep5.Para) (K : Kind) (hp : paraOk p = true) (hK : paraKind p = some K) (hKne : K ≠ .catchall)
    (hx : noMultiExtra p) (q : Model.Copyright.Para) (hqk : q.kind = K)
    (hqf : q.fields = (paraOf p K).fields) (hqe : q.extra = (paraOf p K).extra) :
    paraDumps q = .ok (renderPara (canonPara K p)) := by
  have hb := baseDumps_eq p K hp hK hx q hqf hqe
  unfold paraDumps
  rw [hqk]
  cases K with
  | header => exact hb
  | files =>
    have := license_name p .files hp hK (Or.inl rfl) q hqf
    simp only [filesParaIsEmpty, this, Bool.and_false, Bool.false_and, Bool.false_eq_true, if_false]
    exact hb
  | license =>
    have := license_name p .license hp hK (Or.inr rfl) q hqf
    simp only [licenseParaIsEmpty, this, Bool.and_false, Bool.false_and, Bool.false_eq_true, if_false]
    exact hb
  | catchall => exact absurd rfl hKne

/-! ### the canonical paragraph is a paragraph of the grammar and spells the same object -/

theorem ddk_fresh (ns acc : List Str) (hnd : ns.Nodup) (hdis : ∀ n ∈ ns, n ∉ acc) : ddk acc ns = acc ++ ns := by
  induction ns generalizing acc with
  | nil => simp [ddk]
  | cons n ns ih =>
    have hn := List.nodup_cons.mp hnd
    have hc : acc.contains n = false := by
      cases h : acc.contains n with
      | false => rfl
      | true => exact absurd (List.contains_iff_mem.mp h) (hdis n (by simp))
    simp only [ddk, List.foldl_cons, hc, Bool.false_eq_true, if_false]
    have := ih (acc ++ [n]) hn.2 (by
      intro x hx hm
      rcases List.mem_append.mp hm with h | h
      · exact hdis x (by simp [hx]) h
      · have : x = n := by simpa using h
        subst this
        exact hn.1 hx)
    simp only [ddk] at this
    rw [this]; simp

theorem distinct_of_nodup (P : Dep5.Para) (h : (P.map fun f => normLabel f.label).Nodup) : distinct P = true := by
  unfold distinct
  have := ddk_fresh (P.map fun f => normLabel f.label) [] h (by simp)
  simp only [ddk, List.nil_append] at this
  simp only [this, beq_self_eq_true]

theorem fieldKey_canon (f : Field) : fieldKey (canonField f) = fieldKey f := by
  unfold fieldKey
  rw [canon_label, normLabel_canon]

theorem canon_mem (p : Dep5.Para) (K : Kind) (hp : paraOk p = true) (hK : paraKind p = some K) :
    ∀ g ∈ canonPara K p, ∃ f ∈ p, g = canonField f := by
  intro g hg
  obtain ⟨f, hf, rfl⟩ := List.mem_map.mp hg
  exact ⟨f, src_mem p K hp hK f hf, rfl⟩

theorem mem_canon (p : Dep5.Para) (K : Kind) (hp : paraOk p = true) (hK : paraKind p = some K)
    (f : Field) (hf : f ∈ p) : canonField f ∈ canonPara K p :=
  List.mem_map.mpr ⟨f, src_complete p K hp hK f hf, rfl⟩

theorem normLabel_canonField (f : Field) : normLabel (canonField f).label = normLabel f.label := by
  rw [canon_label, normLabel_canon]

theorem all_canon (p : Dep5.Para) (K : Kind) (hp : paraOk p = true) (hK : paraKind p = some K)
    (q : Field → Bool) (hq : ∀ f, q (canonField f) = q f) : (canonPara K p).all q = p.all q := by
  rw [Bool.eq_iff_iff, List.all_eq_true, List.all_eq_true]
  constructor
  · intro h f hf
    exact hq f ▸ h _ (mem_canon p K hp hK f hf)
  · intro h g hg
    obtain ⟨f, hf, rfl⟩ := canon_mem p K hp hK g hg
    exact (hq f).symm ▸ h f hf

theorem hasLabel_canon (p : Dep5.Para) (K : Kind) (hp : paraOk p = true) (hK : paraKind p = some K)
    (s : String) : hasLabel (canonPara K p) s = hasLabel p s := by
  rw [hasLabel, hasLabel, List.any_eq_not_all_not, List.any_eq_not_all_not]
  exact congrArg not (all_canon p K hp hK _ fun f => by rw [normLabel_canonField])

theorem paraKind_canon (p : Dep5.Para) (K : Kind) (hp : paraOk p = true) (hK : paraKind p = some K) :
    paraKind (canonPara K p) = some K := by
  rw [← hK]
  unfold paraKind
  simp only [hasLabel_canon p K hp hK]

theorem paraOk_canon (p : Dep5.Para) (K : Kind) (hp : paraOk p = true) (hK : paraKind p = some K) (hKne : K ≠ .catchall) :
    paraOk (canonPara K p) = true := by
  have hp' := hp
  rw [paraOk, Bool.and_eq_true, Bool.and_eq_true, Bool.and_eq_true] at hp' ⊢
  refine ⟨⟨⟨?_, ?_⟩, ?_⟩, ?_⟩
  · rw [Bool.not_eq_true', List.isEmpty_eq_false_iff]
    exact fun e => src_ne p K hp hK (List.map_eq_nil_iff.mp e)
  · rw [List.all_eq_true]
    intro g hg
    obtain ⟨f, hf, rfl⟩ := canon_mem p K hp hK g hg
    exact canon_fieldOk f (paraOk_fields hp f hf)
  · -- the keys of `src` are distinct, and a key is a function of the normalised name
    apply distinct_of_nodup
    have e : (canonPara K p).map (fun f => normLabel f.label) = (src K p).map fun f => normLabel f.label := by
      simp only [canonPara, List.map_map, Function.comp_def, normLabel_canonField]
    rw [e]
    have hnd : (((src K p).map fun f => normLabel f.label).map (replaceChar '-' '_')).Nodup := by
      rw [List.map_map]
      exact src_keys_nodup p K hp hK
    exact hnd.of_map _ fun _ _ h e => h (congrArg _ e)
  · -- the clause of the paragraph class reads normalised names and kinds only
    rw [paraKind_canon p K hp hK]
    rw [hK] at hp'
    cases K with
    | header => exact (all_canon p _ hp hK _ fun f => by rw [normLabel_canonField]).trans hp'.2
    | files =>
      rw [Bool.and_eq_true] at hp' ⊢
      rw [hasLabel_canon p _ hp hK, hasLabel_canon p _ hp hK]
      exact ⟨hp'.2.1, (all_canon p _ hp hK _ fun f => by rw [normLabel_canonField, canon_kind]).trans hp'.2.2⟩
    | license => exact (all_canon p _ hp hK _ fun f => by rw [normLabel_canonField, canon_kind]).trans hp'.2
    | catchall => exact absurd rfl hKne

theorem pick_canon (p : Dep5.Para) (K : Kind) (hp : paraOk p = true) (hK : paraKind p = some K)
    (nc : Str × String) (hnc : nc ∈ typedFields K) : pick (canonPara K p) nc.1 = (pick p nc.1).map canonField := by
  have hP := paraOk_canon p K hp hK (kind_ne_catchall hp hK)
  have hKP := paraKind_canon p K hp hK
  cases hpP : pick (canonPara K p) nc.1 with
  | some g =>
    obtain ⟨hgP, hg5, hgk, _⟩ := pick_some _ K hP hKP nc hnc g hpP
    obtain ⟨f, hf, rfl⟩ := canon_mem p K hp hK g hgP
    rw [canon_kind] at hg5
    rw [fieldKey_canon] at hgk
    cases hpk : pick p nc.1 with
    | none => exact absurd hgk (pick_none p nc.1 hpk f hf hg5)
    | some f' =>
      obtain ⟨hfp', _, hfk', _⟩ := pick_some p K hp hK nc hnc f' hpk
      rw [key_inj p hp f f' hf hfp' (by rw [hgk, hfk'])]
      rfl
  | none =>
    cases hpk : pick p nc.1 with
    | none => rfl
    | some f =>
      obtain ⟨hfp, h5, hfk, _⟩ := pick_some p K hp hK nc hnc f hpk
      exact absurd (by rw [fieldKey_canon, hfk])
        (pick_none _ _ hpP (canonField f) (mem_canon p K hp hK f hfp) (by rw [canon_kind]; exact h5))

theorem is5_canonPara (p : Dep5.Para) (K : Kind) (hp : paraOk p = true) (hK : paraKind p = some K) :
    is5 (canonPara K p) = (is5 p).map canonField := by
  unfold canonPara src is5
  rw [List.map_append, List.filter_append]
  have h1 : (((typedFields K).filterMap fun nc => pick p nc.1).map canonField).filter (·.kind == 5) = [] := by
    rw [List.filter_eq_nil_iff]
    intro g hg
    obtain ⟨f, hf, rfl⟩ := List.mem_map.mp hg
    obtain ⟨nc, hnc, hpk⟩ := List.mem_filterMap.mp hf
    rw [canon_kind]; simpa using (pick_some p K hp hK nc hnc f hpk).2.1
  have h2 : ((p.filter (·.kind == 5)).map canonField).filter (·.kind == 5) = (p.filter (·.kind == 5)).map canonField := by
    rw [List.filter_eq_self]
    intro g hg
    obtain ⟨f, hf, rfl⟩ := List.mem_map.mp hg
    rw [canon_kind]
    exact (List.mem_filter.mp hf).2
  rw [h1, h2, List.nil_append]

theorem paraOf_canon (p : Dep5.Para) (K : Kind) (hp : paraOk p = true) (hK : paraKind p = some K) (hKne : K ≠ .catchall) :
    (paraOf (canonPara K p) K).fields = (paraOf p K).fields ∧ (paraOf (canonPara K p) K).extra = (paraOf p K).extra := by
  have hfo := paraOk_fields hp
  constructor
  · simp only [paraOf]
    apply List.map_congr_left
    intro nc hnc
    rw [typed_at _ K (paraOk_canon p K hp hK hKne) (paraKind_canon p K hp hK) nc hnc, typed_at p K hp hK nc hnc,
      pick_canon p K hp hK nc hnc]
    cases hpk : pick p nc.1 with
    | none => rfl
    | some f =>
      obtain ⟨hfp, h5, _, _⟩ := pick_some p K hp hK nc hnc f hpk
      exact congrArg (Prod.mk nc.1) (canon_expected f (hfo f hfp) h5)
  · simp only [paraOf]
    rw [show (canonPara K p).filter (·.kind == 5) = is5 (canonPara K p) from rfl, is5_canonPara p K hp hK, List.map_map]
    apply List.map_congr_left
    intro f hf
    have := canon_extra f (mem_is5.mp hf).2
    simp only [Function.comp, fieldKey_canon, expectedExtra, this.1, this.2]

end Props.C13P
