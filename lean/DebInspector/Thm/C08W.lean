/-
C08 — the word-inclusion clause for every text: every word of the text appears in a key or a value of what
`get_paragraph_data` returns, and of what `get_paragraphs_data` returns.
-/
import DebInspector.Thm.C08
import DebInspector.Thm.C06

namespace Props.C08W
open Py Model.Email Props.C08

/-! ### words of this property -/

def sep (c : Char) : Bool := isSpace c || c = ':'

theorem atomsAux_cons (c : Char) (cs cur : Str) :
    atomsAux (c :: cs) cur =
      if sep c then atomsAux [] cur ++ atomsAux cs [] else atomsAux cs (lowerAsciiChar c :: cur) := by
  cases cur <;> rfl

theorem atomsAux_sep (a b cur : Str) (c : Char) (hc : sep c = true) :
    atomsAux (a ++ c :: b) cur = atomsAux a cur ++ atomsAux b [] := by
  induction a generalizing cur with
  | nil => rw [List.nil_append, atomsAux_cons, if_pos hc]
  | cons x xs ih =>
    rw [List.cons_append, atomsAux_cons, atomsAux_cons]
    split
    · rw [ih, List.append_assoc]
    · exact ih _

theorem atoms_sep (a b : Str) (c : Char) (hc : sep c = true) : atoms (a ++ c :: b) = atoms a ++ atoms b :=
  atomsAux_sep a b [] c hc

theorem atoms_nil : atoms [] = [] := rfl

theorem atoms_cons_sep (c : Char) (b : Str) (hc : sep c = true) : atoms (c :: b) = atoms b :=
  atoms_sep [] b c hc

theorem atoms_snoc_sep (a : Str) (c : Char) (hc : sep c = true) : atoms (a ++ [c]) = atoms a :=
  (atoms_sep a [] c hc).trans (List.append_nil _)

theorem atoms_allsep_append (w a : Str) (h : ∀ c ∈ w, sep c = true) : atoms (w ++ a) = atoms a := by
  induction w with
  | nil => rfl
  | cons c cs ih =>
    rw [List.cons_append, atoms_cons_sep c _ (h c (List.mem_cons_self ..))]
    exact ih fun d hd => h d (List.mem_cons_of_mem _ hd)

theorem atoms_append_allsep (a w : Str) (h : ∀ c ∈ w, sep c = true) : atoms (a ++ w) = atoms a := by
  induction w generalizing a with
  | nil => rw [List.append_nil]
  | cons c cs ih =>
    rw [List.append_cons, ih _ fun d hd => h d (List.mem_cons_of_mem _ hd), atoms_snoc_sep a c (h c (List.mem_cons_self ..))]

theorem atoms_append_end (a b : Str) (h : a = [] ∨ lastP sep a = true) : atoms (a ++ b) = atoms a ++ atoms b := by
  rcases h with rfl | h
  · rfl
  · obtain ⟨a', c, rfl, hc⟩ := lastP_mem h
    rw [List.append_assoc, List.singleton_append, atoms_sep a' b c hc, atoms_snoc_sep a' c hc]

theorem atoms_append_start (a b : Str) (h : headP sep b = true) : atoms (a ++ b) = atoms a ++ atoms b := by
  cases b with
  | nil => cases h
  | cons c cs => rw [atoms_sep a cs c h, atoms_cons_sep c cs h]

/-! ### inclusion -/

def Sub (a b : List Str) : Prop := ∀ x ∈ a, x ∈ b

theorem subset_iff (a b : List Str) : subset a b = true ↔ Sub a b := by
  simp [subset, Sub, List.all_eq_true]

theorem Sub.refl (a : List Str) : Sub a a := fun _ h => h
theorem Sub.trans {a b c : List Str} (h1 : Sub a b) (h2 : Sub b c) : Sub a c := fun x hx => h2 x (h1 x hx)
theorem Sub.append {a b c : List Str} (h1 : Sub a c) (h2 : Sub b c) : Sub (a ++ b) c :=
  fun x hx => (List.mem_append.mp hx).elim (h1 x) (h2 x)
theorem Sub.left (a b : List Str) : Sub a (a ++ b) := fun _ h => List.mem_append.mpr (Or.inl h)
theorem Sub.right (a b : List Str) : Sub b (a ++ b) := fun _ h => List.mem_append.mpr (Or.inr h)
theorem Sub.nil (b : List Str) : Sub [] b := fun _ h => nomatch h
theorem Sub.append_mono {a a' b b' : List Str} (h1 : Sub a a') (h2 : Sub b b') : Sub (a ++ b) (a' ++ b') :=
  Sub.append (h1.trans (Sub.left _ _)) (h2.trans (Sub.right _ _))

/-- the words of a piece are among the words of a text it sits in, when no word straddles its two ends -/
theorem atoms_piece (pre x post : Str)
    (h1 : pre = [] ∨ lastP sep pre = true ∨ headP sep x = true ∨ x = [])
    (h2 : post = [] ∨ headP sep post = true ∨ lastP sep x = true ∨ x = []) :
    Sub (atoms x) (atoms (pre ++ x ++ post)) := by
  cases x with
  | nil => exact Sub.nil _
  | cons c cs =>
    have e1 : atoms (pre ++ c :: cs) = atoms pre ++ atoms (c :: cs) := by
      rcases h1 with h | h | h | h
      · exact atoms_append_end pre _ (Or.inl h)
      · exact atoms_append_end pre _ (Or.inr h)
      · exact atoms_append_start pre _ h
      · cases h
    have e2 : atoms (pre ++ c :: cs ++ post) = atoms (pre ++ c :: cs) ++ atoms post := by
      rcases h2 with h | h | h | h
      · rw [h, List.append_nil]; exact (List.append_nil _).symm
      · exact atoms_append_start _ post h
      · exact atoms_append_end _ _ (Or.inr (by rw [lastP_append_cons]; exact h))
      · cases h
    rw [e2, e1]
    exact (Sub.right _ _).trans (Sub.left _ _)

/-! ### lines with their terminators -/

def isTerm (c : Char) : Bool := c = '\n' || c = '\r'

theorem term_sep {c : Char} (h : isTerm c = true) : sep c = true := by
  simp only [isTerm, Bool.or_eq_true, decide_eq_true_eq] at h
  rcases h with rfl | rfl <;> decide

/-- every line but the last ends with a line terminator -/
def TE : List Str → Prop
  | [] => True
  | [_] => True
  | l :: m :: rest => lastP isTerm l = true ∧ TE (m :: rest)

theorem TE_cons (l : Str) (ls : List Str) (hl : lastP isTerm l = true) (h : TE ls) : TE (l :: ls) := by
  cases ls with
  | nil => trivial
  | cons m rest => exact ⟨hl, h⟩

theorem TE_tail (l : Str) (ls : List Str) (h : TE (l :: ls)) : TE ls := by
  cases ls with
  | nil => trivial
  | cons m rest => exact h.2

theorem TE_head (l : Str) (ls : List Str) (h : TE (l :: ls)) (hne : ls ≠ []) : lastP isTerm l = true := by
  cases ls with
  | nil => exact absurd rfl hne
  | cons m rest => exact h.1

theorem TE_append (a b : List Str) (h : TE (a ++ b)) :
    TE a ∧ TE b ∧ (b ≠ [] → ∀ l ∈ a, lastP isTerm l = true) := by
  induction a with
  | nil => exact ⟨trivial, h, fun _ _ hl => nomatch hl⟩
  | cons x xs ih =>
    obtain ⟨i1, i2, i3⟩ := ih (TE_tail _ _ h)
    refine ⟨?_, i2, fun hb => List.forall_mem_cons.mpr ⟨TE_head _ _ h (by simp [hb]), i3 hb⟩⟩
    cases xs with
    | nil => trivial
    | cons y ys => exact ⟨h.1, i1⟩

theorem atoms_flatten (ls : List Str) (h : TE ls) : atoms ls.flatten = ls.flatMap atoms := by
  induction ls with
  | nil => rfl
  | cons l rest ih =>
    cases rest with
    | nil => simp
    | cons m rest' =>
      rw [List.flatten_cons, List.flatMap_cons, atoms_append_end l _ (Or.inr (lastP_mono term_sep h.1)), ih h.2]

/-! ### the lines of the line splitter -/

/-- the pending line `cur` (reversed) of the line splitter holds no terminator, except a last `\r` exactly when `cr` -/
def Pending (cur : Str) (cr : Bool) : Prop :=
  ∃ body, cur.reverse = body ++ (if cr then ['\r'] else []) ∧ ∀ c ∈ body, isTerm c = false

/-- a line that starts with a line terminator holds nothing else: it is a separator line, without words -/
def OnlyTermIfNl (l : Str) : Prop := startsWithNl l = true → ∀ c ∈ l, isTerm c = true

theorem Pending.line {cur : Str} {cr : Bool} (h : Pending cur cr) (w : Str) (hw : ∀ c ∈ w, isTerm c = true) :
    OnlyTermIfNl (cur.reverse ++ w) := by
  obtain ⟨body, e, hb⟩ := h
  intro hs
  cases body with
  | nil =>
    intro c hc
    rw [e] at hc
    rcases List.mem_append.mp hc with hc | hc
    · split at hc
      · rw [List.mem_singleton.mp hc]; rfl
      · cases hc
    · exact hw c hc
  | cons b bs =>
    rw [e, show startsWithNl (b :: bs ++ _ ++ w) = isTerm b from rfl, hb b (List.mem_cons_self ..)] at hs
    cases hs

theorem Pending.cr {cur : Str} (h : Pending cur false) : Pending ('\r' :: cur) true := by
  obtain ⟨body, e, hb⟩ := h
  exact ⟨body, by simp [e], hb⟩

theorem Pending.push {cur : Str} (h : Pending cur false) (c : Char) (hc : isTerm c = false) : Pending (c :: cur) false := by
  obtain ⟨body, e, hb⟩ := h
  refine ⟨body ++ [c], by simp [e], fun d hd => ?_⟩
  rcases List.mem_append.mp hd with hd | hd
  · exact hb d hd
  · rw [List.mem_singleton.mp hd]; exact hc

theorem pending_nil : Pending [] false := ⟨[], rfl, nofun⟩

theorem lines_cons {l : Str} {ls : List Str} (hl : lastP isTerm l = true) (hnl : OnlyTermIfNl l)
    (h : TE ls ∧ ∀ x ∈ ls, OnlyTermIfNl x) : TE (l :: ls) ∧ ∀ x ∈ l :: ls, OnlyTermIfNl x :=
  ⟨TE_cons _ _ hl h.1, List.forall_mem_cons.mpr ⟨hnl, h.2⟩⟩

theorem splitKeepEndsAux_lines (t cur : Str) (cr : Bool) (h : Pending cur cr) :
    TE (splitKeepEndsAux t cur cr) ∧ ∀ l ∈ splitKeepEndsAux t cur cr, OnlyTermIfNl l := by
  have nl (cur : Str) (cr : Bool) (h : Pending cur cr) : OnlyTermIfNl ('\n' :: cur).reverse := by
    rw [List.reverse_cons]
    exact h.line ['\n'] (by simp [isTerm])
  have self (cur : Str) (cr : Bool) (h : Pending cur cr) : OnlyTermIfNl cur.reverse := by
    have := h.line [] nofun
    rwa [List.append_nil] at this
  have notTerm {c : Char} (h1 : ¬ c = '\n') (h2 : ¬ c = '\r') : isTerm c = false := by
    rw [isTerm, decide_eq_false h1, decide_eq_false h2]
    rfl
  -- with `cr` the pending line ends with its `\r`
  have crLast (cur : Str) (h : Pending cur true) : lastP isTerm cur.reverse = true := by
    obtain ⟨body, e, _⟩ := h
    rw [e]
    exact lastP_append_cons isTerm body '\r' []
  fun_induction splitKeepEndsAux t cur cr with
  | case1 => exact ⟨trivial, nofun⟩  -- end of text, nothing pending
  | case2 cur cr => exact ⟨trivial, List.forall_mem_singleton.mpr (self cur cr h)⟩
  -- after `\r`: `\n` completes the terminator; another `\r` or any other character starts the next line
  | case3 rest cur ih => exact lines_cons (lastP_reverse_cons ..) (nl cur true h) (ih pending_nil)
  | case4 rest cur _ ih => exact lines_cons (crLast cur h) (self cur true h) (ih ⟨[], rfl, nofun⟩)
  | case5 c rest cur h1 h2 ih =>
    exact lines_cons (crLast cur h) (self cur true h) (ih ⟨[c], rfl, List.forall_mem_singleton.mpr (notTerm h1 h2)⟩)
  -- otherwise: `\n` ends the line, `\r` is kept pending, any other character joins the line
  | case6 rest cur cr _ ih => exact lines_cons (lastP_reverse_cons ..) (nl cur cr h) (ih pending_nil)
  | case7 rest cur cr hcr _ ih =>
    rw [Bool.not_eq_true] at hcr
    subst hcr
    exact ih h.cr
  | case8 c rest cur cr hcr h1 h2 ih =>
    rw [Bool.not_eq_true] at hcr
    subst hcr
    exact ih (h.push c (notTerm h1 h2))

theorem splitKeepEnds_TE (t : Str) : TE (splitKeepEnds t) := (splitKeepEndsAux_lines t [] false pending_nil).1

theorem sep_line_atoms (t : Str) (l : Str) (hl : l ∈ splitKeepEnds t) (hs : startsWithNl l = true) : atoms l = [] := by
  have := (splitKeepEndsAux_lines t [] false pending_nil).2 l hl hs
  rw [← List.append_nil l]
  exact atoms_allsep_append l [] fun c hc => term_sep (this c hc)

/-! ### what the line operations of the header parser leave of the words -/

theorem atoms_lstripSpTab (s t : Str) : atoms (lstripSpTab s ++ t) = atoms (s ++ t) := by
  induction s with
  | nil => rfl
  | cons c cs ih =>
    unfold lstripSpTab
    split
    · rename_i h
      rw [ih, List.cons_append, atoms_cons_sep c _ (by
        simp only [Bool.or_eq_true, decide_eq_true_eq] at h
        rcases h with rfl | rfl <;> decide)]
    · rfl

theorem atomsAux_rstripCrLf (s cur : Str) : atomsAux (rstripCrLf s) cur = atomsAux s cur := by
  induction s generalizing cur with
  | nil => rfl
  | cons c cs ih =>
    unfold rstripCrLf
    rw [atomsAux_cons c cs]
    cases hr : rstripCrLf cs with
    | nil =>
      simp only [← ih, hr]
      split
      · rename_i h
        have : isTerm c = true := by simpa [isTerm, Bool.or_comm] using h
        rw [if_pos (term_sep this)]
        exact (List.append_nil _).symm
      · exact atomsAux_cons c [] cur
    | cons d ds =>
      simp only [← ih, hr]
      exact atomsAux_cons c (d :: ds) cur

theorem atoms_stripEol (l : Str) : atoms (stripEol l) = atoms l := by
  have ends (q : Str) (h : endsWith l q = true) : ∃ a, l = a ++ q := ⟨_, endsWith_decomp l q h⟩
  unfold stripEol
  split
  · rename_i h
    obtain ⟨a, rfl⟩ := ends _ h
    have : (a ++ ['\r', '\n']).dropLast.dropLast = a := by simp
    rw [this, atoms_append_allsep a _ (by decide)]
  · split
    · rename_i h
      rw [Bool.or_eq_true] at h
      rcases h with h | h <;> obtain ⟨a, rfl⟩ := ends _ h
      · rw [List.dropLast_concat, atoms_snoc_sep a '\n' (by decide)]
      · rw [List.dropLast_concat, atoms_snoc_sep a '\r' (by decide)]
    · rfl

theorem hsp_atoms_flatten (first : Str) (conts : List Str) (hcol : ':' ∈ first) :
    atoms (headerSourceParse first conts).1 ++ atoms (headerSourceParse first conts).2 =
      atoms (first :: conts).flatten := by
  obtain ⟨hnocol, h2, h3⟩ := partitionChar_spec ':' first
  have hfound : (partitionChar ':' first).2.1 = true := by
    cases hf : (partitionChar ':' first).2.1 with
    | true => rfl
    | false => rw [(h3 hf).1] at hnocol; exact absurd hcol hnocol
  have hval : atoms (headerSourceParse first conts).2 = atoms ((partitionChar ':' first).2.2 ++ conts.flatten) :=
    (atomsAux_rstripCrLf _ []).trans (atoms_lstripSpTab _ _)
  rw [hval, List.flatten_cons]
  conv => rhs; rw [h2 hfound, List.append_assoc, List.cons_append]
  exact (atoms_sep _ _ ':' (by decide)).symm

/-- one header: its name and value hold every word of its source lines -/
theorem hsp_atoms (first : Str) (conts : List Str) (hcol : ':' ∈ first) (hte : TE (first :: conts)) :
    atoms (headerSourceParse first conts).1 ++ atoms (headerSourceParse first conts).2 =
      atoms first ++ conts.flatMap atoms :=
  (hsp_atoms_flatten first conts hcol).trans (atoms_flatten _ hte)

/-! ### the header loop accounts for every line it is given

`phl` = `parseHeaderLines`, `hsp` = `headerSourceParse`.  The eight cases of `parseHeaderLines`, in order: no line
left; a continuation line without an open header (defect); a continuation line; a `From ` line first (unix-from), last
(pushed back), elsewhere (defect); a line starting with a colon (defect); a header line. -/

theorem flushHeader_last (s : HSt) : (flushHeader s).last = none := by
  obtain ⟨_ | _, _⟩ := s <;> rfl

theorem flushHeader_acc (s : HSt) : (flushHeader s).acc.defects = s.acc.defects ∧
    (flushHeader s).acc.unixfrom = s.acc.unixfrom ∧ (flushHeader s).acc.pushedBack = s.acc.pushedBack := by
  obtain ⟨_ | _, _⟩ := s <;> exact ⟨rfl, rfl, rfl⟩

theorem phl_defects (n : Nat) (ls : List Str) (idx : Nat) (s : HSt) (h : s.acc.defects = true) :
    (parseHeaderLines n idx s ls).acc.defects = true := by
  fun_induction parseHeaderLines n idx s ls with
  | case1 _ s => exact (flushHeader_acc s).1.trans h
  | case2 _ _ _ _ _ _ ih => exact ih rfl
  | case3 _ _ _ _ _ _ _ _ ih => exact ih h
  | case4 s _ _ _ _ _ ih => exact ih ((flushHeader_acc s).1.trans h)
  | case5 s => exact (flushHeader_acc s).1.trans h
  | case6 _ _ _ _ _ _ _ _ _ ih => exact ih rfl
  | case7 _ _ _ _ _ _ _ _ ih => exact ih rfl
  | case8 _ s _ _ _ _ _ _ ih => exact ih ((flushHeader_acc s).1.trans h)

theorem phl_pb_mem (n : Nat) (ls : List Str) (idx : Nat) (s : HSt) (l : Str)
    (h : (parseHeaderLines n idx s ls).acc.pushedBack = some l) : s.acc.pushedBack = some l ∨ l ∈ ls := by
  fun_induction parseHeaderLines n idx s ls with
  | case1 _ s => exact Or.inl ((flushHeader_acc s).2.2.symm.trans h)
  | case2 _ _ _ _ _ _ ih => exact (ih h).imp id (List.mem_cons_of_mem _)
  | case3 _ _ _ _ _ _ _ _ ih => exact (ih h).imp id (List.mem_cons_of_mem _)
  | case4 s _ _ _ _ _ ih => exact (ih h).imp (flushHeader_acc s).2.2.symm.trans (List.mem_cons_of_mem _)
  | case5 => exact Or.inr (Option.some.inj h ▸ List.mem_cons_self ..)
  | case6 _ s _ _ _ _ _ _ _ ih => exact (ih h).imp (flushHeader_acc s).2.2.symm.trans (List.mem_cons_of_mem _)
  | case7 _ s _ _ _ _ _ _ ih => exact (ih h).imp (flushHeader_acc s).2.2.symm.trans (List.mem_cons_of_mem _)
  | case8 _ s _ _ _ _ _ _ ih => exact (ih h).imp (flushHeader_acc s).2.2.symm.trans (List.mem_cons_of_mem _)

def optAtoms : Option Str → List Str
  | some s => atoms s
  | none => []

/-- the words of finished headers, names and values -/
def hdrAtoms (hs : List (Str × Str)) : List Str := hs.flatMap fun nv => atoms nv.1 ++ atoms nv.2

/-- the words of the source lines of the open header -/
def openAtoms : Option (Str × List Str) → List Str
  | some (f, cs) => atoms f ++ cs.flatMap atoms
  | none => []

/-- every word the state of the header loop holds: unix-from line, headers, pushed-back line, open header -/
def accAtoms (s : HSt) : List Str :=
  optAtoms s.acc.unixfrom ++ hdrAtoms s.acc.headers ++ optAtoms s.acc.pushedBack ++ openAtoms s.last

def openLines : Option (Str × List Str) → List Str
  | some (f, cs) => f :: cs
  | none => []

theorem hdrAtoms_append (a b : List (Str × Str)) : hdrAtoms (a ++ b) = hdrAtoms a ++ hdrAtoms b :=
  List.flatMap_append

theorem hdrAtoms_singleton (nv : Str × Str) : hdrAtoms [nv] = atoms nv.1 ++ atoms nv.2 := by
  simp [hdrAtoms]

theorem dropNameChars_suffix (l : Str) : ∃ pre, l = pre ++ dropNameChars l := by
  induction l with
  | nil => exact ⟨[], rfl⟩
  | cons c cs ih =>
    unfold dropNameChars
    split
    · obtain ⟨pre, hp⟩ := ih
      exact ⟨c :: pre, congrArg (c :: ·) hp⟩
    · exact ⟨[], rfl⟩

theorem colon_of_header (l : Str) (h : headP (· = ':') (dropNameChars l) = true) : ':' ∈ l := by
  obtain ⟨pre, hp⟩ := dropNameChars_suffix l
  cases hd : dropNameChars l with
  | nil => rw [hd] at h; cases h
  | cons c cs =>
    rw [hd] at h hp
    rw [hp, ← of_decide_eq_true h]
    simp

theorem accAtoms_flush (s : HSt) (hpb : s.acc.pushedBack = none) (hcol : ∀ fc, s.last = some fc → ':' ∈ fc.1)
    (hte : TE (openLines s.last)) : accAtoms (flushHeader s) = accAtoms s := by
  obtain ⟨_ | ⟨f, cs⟩, acc⟩ := s
  · rfl
  · simp only [accAtoms, flushHeader, show acc.pushedBack = none from hpb, openAtoms, optAtoms, hdrAtoms_append,
      hdrAtoms_singleton, hsp_atoms f cs (hcol _ rfl) hte, List.append_nil, List.append_assoc]

theorem accAtoms_cont (s : HSt) (f l : Str) (cs : List Str) (h : s.last = some (f, cs)) :
    accAtoms { s with last := some (f, cs ++ [l]) } = accAtoms s ++ atoms l := by
  simp [accAtoms, h, openAtoms, List.append_assoc]

theorem accAtoms_open (s : HSt) (l : Str) (h : s.last = none) :
    accAtoms { s with last := some (l, []) } = accAtoms s ++ atoms l := by
  simp [accAtoms, h, openAtoms]

theorem accAtoms_pushedBack (s : HSt) (l : Str) (h : s.last = none) (hpb : s.acc.pushedBack = none) :
    accAtoms { s with acc := { s.acc with pushedBack := some l } } = accAtoms s ++ atoms l := by
  simp [accAtoms, h, hpb, openAtoms, optAtoms]

theorem accAtoms_unixfrom (s : HSt) (u : Str) (h : s.acc.unixfrom = none) :
    accAtoms { s with acc := { s.acc with unixfrom := some u } } = atoms u ++ accAtoms s := by
  simp [accAtoms, h, optAtoms, List.append_assoc]

theorem colon_of_headerLine (l : Str) (h : isHeaderLine l = true) (hsp : ¬ headP (fun c => c = ' ' || c = '\t') l = true)
    (hfrom : ¬ startsWith l fromSpace = true) : ':' ∈ l := by
  simp only [isHeaderLine, Bool.or_eq_true] at h
  rcases h with (h | h) | h
  · exact absurd h hfrom
  · exact colon_of_header l h
  · cases l with
    | nil => cases h
    | cons c cs => exact absurd (by simpa [headP, Bool.or_comm] using h) hsp

/-- **the header loop**: when it reports no defect, the unix-from line, the headers and the pushed-back line hold every
word of the lines it was given.  `idx + ls.length = n`: `n` is the number of all lines, which the loop compares `idx` with
to find the last one; a unix-from line can only come from line 0; every line but the last ends in a terminator. -/
theorem phl_atoms (n : Nat) (ls : List Str) : ∀ (idx : Nat) (s : HSt), s.acc.defects = false → idx + ls.length = n →
    (∀ l ∈ ls, isHeaderLine l = true) → TE (openLines s.last ++ ls) → (∀ fc, s.last = some fc → ':' ∈ fc.1) →
    (idx = 0 → s.acc.unixfrom = none) → s.acc.pushedBack = none →
    (parseHeaderLines n idx s ls).acc.defects = false →
    Sub (accAtoms s ++ ls.flatMap atoms) (accAtoms (parseHeaderLines n idx s ls)) ∧ (parseHeaderLines n idx s ls).last = none := by
  intro idx s hd hn hhl hte hcol huf hpb hres
  have next {idx : Nat} {l : Str} {rest : List Str} (h : idx + (l :: rest).length = n) : idx + 1 + rest.length = n := by
    rw [← h, List.length_cons, Nat.add_right_comm, Nat.add_assoc]
  fun_induction parseHeaderLines n idx s ls with
  | case1 _ s =>
    rw [accAtoms_flush s hpb hcol (by simpa using hte), List.flatMap_nil, List.append_nil]
    exact ⟨Sub.refl _, flushHeader_last s⟩
  | case2 => rw [phl_defects _ _ _ _ rfl] at hres; cases hres
  | case3 idx s l rest _ f cs hl ih =>
    have := ih hd (next hn) (fun x hx => hhl x (List.mem_cons_of_mem _ hx))
      (by simpa [hl, openLines] using hte) (fun fc hfc => by rw [← Option.some.inj hfc]; exact hcol (f, cs) hl) nofun hpb hres
    rwa [accAtoms_cont s f l cs hl, List.append_assoc] at this
  | case4 s l rest _ _ _ ih =>
    -- closing the open header: all its lines end with a terminator, since a line follows
    obtain ⟨t1, t2, _⟩ := TE_append _ _ hte
    have := ih ((flushHeader_acc s).1.trans hd) (next hn) (fun x hx => hhl x (List.mem_cons_of_mem _ hx))
      (by rw [flushHeader_last]; exact TE_tail _ _ t2) (fun fc hfc => by rw [flushHeader_last] at hfc; cases hfc) nofun
      ((flushHeader_acc s).2.2.trans hpb) hres
    rw [accAtoms_unixfrom _ _ ((flushHeader_acc s).2.1.trans (huf rfl)), atoms_stripEol, accAtoms_flush s hpb hcol t1] at this
    refine ⟨Sub.trans ?_ this.1, this.2⟩
    exact Sub.append ((Sub.right _ _).trans (Sub.left _ _)) (Sub.append_mono (Sub.left _ _) (Sub.refl _))
  | case5 s l rest =>
    have hrest : rest = [] := List.length_eq_zero_iff.mp (by rw [List.length_cons] at hn; omega)
    rw [accAtoms_pushedBack _ l (flushHeader_last s) ((flushHeader_acc s).2.2.trans hpb),
      accAtoms_flush s hpb hcol (TE_append _ _ hte).1, hrest]
    exact ⟨Sub.append_mono (Sub.refl _) (by simp [Sub.refl]), flushHeader_last s⟩
  | case6 => rw [phl_defects _ _ _ _ rfl] at hres; cases hres
  | case7 => rw [phl_defects _ _ _ _ rfl] at hres; cases hres
  | case8 idx s l rest hsp _ hfrom _ ih =>
    obtain ⟨t1, t2, _⟩ := TE_append _ _ hte
    have := ih ((flushHeader_acc s).1.trans hd) (next hn) (fun x hx => hhl x (List.mem_cons_of_mem _ hx)) t2
      (fun fc hfc => by rw [← Option.some.inj hfc]; exact colon_of_headerLine l (hhl l (List.mem_cons_self ..)) hsp hfrom)
      nofun ((flushHeader_acc s).2.2.trans hpb) hres
    rwa [accAtoms_open _ l (flushHeader_last s), accAtoms_flush s hpb hcol t1, List.append_assoc] at this

theorem takeHeaderLines_split (ls : List Str) :
    ls = (takeHeaderLines ls).1 ++ (takeHeaderLines ls).2 ∧ ∀ l ∈ (takeHeaderLines ls).1, isHeaderLine l = true := by
  induction ls with
  | nil => exact ⟨rfl, nofun⟩
  | cons l rest ih =>
    unfold takeHeaderLines
    split
    · rename_i h
      exact ⟨congrArg (l :: ·) ih.1, List.forall_mem_cons.mpr ⟨h, ih.2⟩⟩
    · exact ⟨rfl, nofun⟩

/-! ### the merging loop keeps every word -/

theorem sep_letter {c : Char} (h1 : 65 ≤ c.toNat) (h2 : c.toNat ≤ 122) : sep c = false := by
  have hs : isSpace c = false := by
    cases h : isSpace c with
    | false => rfl
    | true => have := isSpace_range h; omega
  have hc : c ≠ ':' := by intro e; subst e; revert h1; decide
  simp [sep, hs, hc]

theorem sep_lower (c : Char) : sep (lowerAsciiChar c) = sep c := by
  rcases lowerAsciiChar_cases c with h | ⟨h1, h2, h3⟩
  · rw [h]
  · rw [sep_letter (c := c) (by omega) (by omega), sep_letter (by omega) (by omega)]

theorem atomsAux_lower (s cur : Str) : atomsAux (lowerAscii s) cur = atomsAux s cur := by
  induction s generalizing cur with
  | nil => rfl
  | cons c cs ih =>
    rw [show lowerAscii (c :: cs) = lowerAsciiChar c :: lowerAscii cs from rfl, atomsAux_cons, atomsAux_cons, sep_lower,
      lowerAsciiChar_lower, ih, ih]

theorem atoms_lower (s : Str) : atoms (lowerAscii s) = atoms s := atomsAux_lower s []

theorem atoms_strip (s : Str) : atoms (strip s) = atoms s := by
  obtain ⟨w1, w2, hw1, hw2, hd⟩ := strip_decomp s
  have space_sep {c : Char} (h : isSpace c = true) : sep c = true := by rw [sep, h]; rfl
  conv => rhs; rw [hd]
  rw [atoms_allsep_append w1 _ fun c hc => space_sep (hw1 c hc), atoms_append_allsep _ w2 fun c hc => space_sep (hw2 c hc)]

theorem atoms_joinNl_mem (vs : List Str) (v : Str) (hv : v ∈ vs) : Sub (atoms v) (atoms (Model.Email.joinNl vs)) := by
  induction vs with
  | nil => cases hv
  | cons x xs ih =>
    cases xs with
    | nil => rw [List.mem_singleton.mp hv]; exact Sub.refl _
    | cons y ys =>
      rw [show Model.Email.joinNl (x :: y :: ys) = x ++ '\n' :: Model.Email.joinNl (y :: ys) from rfl,
        atoms_sep x _ '\n' (by decide)]
      rcases List.mem_cons.mp hv with rfl | hv
      · exact Sub.left _ _
      · exact (ih hv).trans (Sub.right _ _)

theorem items_sub (items : List (Str × Str)) : Sub (hdrAtoms items) (dictAtoms (mergeItems items)) := by
  intro x hx
  obtain ⟨nv, hnv, hx⟩ := List.mem_flatMap.mp hx
  have hment : mentioned (keyOf nv) items = true := List.any_eq_true.mpr ⟨nv, hnv, decide_eq_true rfl⟩
  have hlk := mergeItems_lookup items (keyOf nv)
  rw [hment, if_pos rfl] at hlk
  refine List.mem_flatMap.mpr ⟨_, Proofs.Assoc.lookup_mem _ _ _ hlk, ?_⟩
  rw [List.mem_append] at hx ⊢
  refine hx.imp (fun hx => ?_) (fun hx => ?_)
  · rwa [keyOf, atoms_strip, atoms_lower]
  · -- the value is one of the distinct values of its key, unless it has no word at all
    rw [← atoms_strip] at hx
    have hne : (valOf nv).isEmpty = false := by
      cases h : valOf nv with
      | nil => rw [show strip nv.2 = [] from h] at hx; cases hx
      | cons _ _ => rfl
    have hin : valOf nv ∈ valuesFor (keyOf nv) items :=
      List.mem_filter.mpr ⟨List.mem_map.mpr ⟨nv, List.mem_filter.mpr ⟨hnv, decide_eq_true rfl⟩, rfl⟩, by simp [hne]⟩
    exact atoms_joinNl_mem _ _ (distinct_has _ _ hin) x hx

/-! ### one paragraph -/

def sepDefect (rest : List Str) : Bool :=
  match rest with
  | [] => false
  | l :: _ => !startsWithNl l

def bodyOf (rest : List Str) : List Str :=
  match rest with
  | [] => []
  | l :: ls => if startsWithNl l then ls else l :: ls

def pbList (st : HSt) : List Str := match st.acc.pushedBack with | some l => [l] | none => []

def initSt : HSt := ⟨none, ⟨[], none, false, none⟩⟩

theorem parseHeaders_eq (t : Str) (hdr rest : List Str) (h : takeHeaderLines (splitKeepEnds t) = (hdr, rest)) (st : HSt)
    (hst : parseHeaderLines hdr.length 0 initSt hdr = st) :
    parseHeaders t =
      { headers := st.acc.headers, unixfrom := st.acc.unixfrom, defects := st.acc.defects || sepDefect rest,
        payload := (pbList st ++ bodyOf rest).flatten } := by
  unfold parseHeaders
  simp only [h]
  subst hst
  cases rest with
  | nil => rfl
  | cons l ls =>
    simp only [sepDefect, bodyOf]
    cases startsWithNl l <;> rfl

theorem TE_bodyOf (rest : List Str) (h : TE rest) : TE (bodyOf rest) := by
  cases rest with
  | nil => trivial
  | cons l ls =>
    simp only [bodyOf]
    split
    · exact TE_tail _ _ h
    · exact h

/-- the body is the rest without the separator line, which has no words -/
theorem bodyOf_atoms (rest : List Str) (hsep : sepDefect rest = false)
    (hnl : ∀ l ∈ rest, startsWithNl l = true → atoms l = []) : (bodyOf rest).flatMap atoms = rest.flatMap atoms := by
  cases rest with
  | nil => rfl
  | cons l ls =>
    have hs : startsWithNl l = true := by simpa [sepDefect] using hsep
    simp only [bodyOf, hs, if_true, List.flatMap_cons, hnl l (List.mem_cons_self ..) hs, List.nil_append]

theorem payload_atoms (st : HSt) (body : List Str) (hTE : TE body)
    (hpb : ∀ l, st.acc.pushedBack = some l → body ≠ [] → lastP isTerm l = true) :
    atoms (pbList st ++ body).flatten = optAtoms st.acc.pushedBack ++ body.flatMap atoms := by
  unfold pbList optAtoms
  cases h : st.acc.pushedBack with
  | none => exact atoms_flatten body hTE
  | some l =>
    cases body with
    | nil => simp
    | cons b bs => exact atoms_flatten _ (TE_cons l _ (hpb l h (List.cons_ne_nil _ _)) hTE)

theorem parseHeaders_words (t : Str) (hd : (parseHeaders t).defects = false) :
    Sub (atoms t) (optAtoms (parseHeaders t).unixfrom ++ hdrAtoms (parseHeaders t).headers ++ atoms (parseHeaders t).payload) := by
  obtain ⟨hdr, rest, htake⟩ : ∃ hdr rest, takeHeaderLines (splitKeepEnds t) = (hdr, rest) := ⟨_, _, rfl⟩
  obtain ⟨hsplit, hhdr⟩ := takeHeaderLines_split (splitKeepEnds t)
  rw [htake] at hsplit hhdr
  have hTE := splitKeepEnds_TE t
  generalize hst : parseHeaderLines hdr.length 0 initSt hdr = st
  rw [parseHeaders_eq t hdr rest htake st hst] at hd ⊢
  obtain ⟨hd1, hd2⟩ := Bool.or_eq_false_iff.mp hd
  rw [hsplit] at hTE
  obtain ⟨tHdr, tRest, tLast⟩ := TE_append hdr rest hTE
  obtain ⟨hphl, hlast⟩ := phl_atoms hdr.length hdr 0 initSt rfl (Nat.zero_add _) hhdr tHdr nofun (fun _ => rfl) rfl
    (by rw [hst]; exact hd1)
  rw [hst] at hphl hlast
  have hbody := bodyOf_atoms rest hd2 fun l hl => sep_line_atoms t l (hsplit ▸ List.mem_append_right _ hl)
  -- the pushed-back line is a header line, and a line follows the header block
  have hpay := payload_atoms st (bodyOf rest) (TE_bodyOf rest tRest) fun l hl hb =>
    tLast (fun e => hb (congrArg bodyOf e)) l ((phl_pb_mem hdr.length hdr 0 initSt l (by rw [hst]; exact hl)).resolve_left nofun)
  have hhdr : Sub (hdr.flatMap atoms) (optAtoms st.acc.unixfrom ++ hdrAtoms st.acc.headers ++ optAtoms st.acc.pushedBack) := by
    -- no header is left open
    refine ((Sub.right _ _).trans hphl).trans ?_
    rw [accAtoms, hlast, openAtoms, List.append_nil]
    exact Sub.refl _
  show Sub _ (optAtoms st.acc.unixfrom ++ hdrAtoms st.acc.headers ++ atoms (pbList st ++ bodyOf rest).flatten)
  rw [← Props.C06.splitKeepEnds_flatten t, atoms_flatten _ (splitKeepEnds_TE t), hsplit, List.flatMap_append, ← hbody, hpay,
    ← List.append_assoc]
  exact Sub.append_mono hhdr (Sub.refl _)

theorem unknown_item_sub (v : Str) : Sub (atoms v) (hdrAtoms (if v.isEmpty then [] else [(unknownKey, v)])) := by
  cases v with
  | nil => exact Sub.nil _
  | cons c cs => exact (Sub.right _ _).trans (by rw [List.isEmpty_cons, if_neg nofun, hdrAtoms_singleton]; exact Sub.refl _)

/-- **every word of the text appears in a key or a value of `get_paragraph_data(text)`** -/
theorem paragraph_words (t : Str) : Sub (atoms t) (dictAtoms (getParagraphData t)) := by
  have htriv : Sub (atoms t) (dictAtoms [(unknownKey, t)]) := (Sub.right _ _).trans (Sub.left _ _)
  rw [getParagraphData]
  cases t.isEmpty with
  | true => exact htriv
  | false =>
    cases hd : (parseHeaders t).headers.isEmpty || (parseHeaders t).defects with
    | true =>
      simp only [hd]
      exact htriv
    | false =>
      simp only [hd]
      refine ((parseHeaders_words t (Bool.or_eq_false_iff.mp hd).2).trans ?_).trans (items_sub _)
      rw [List.append_assoc, hdrAtoms_append, hdrAtoms_append]
      refine Sub.append_mono ?_ (Sub.append_mono (Sub.refl _) (unknown_item_sub _))
      cases (parseHeaders t).unixfrom with
      | none => exact Sub.nil _
      | some u => exact unknown_item_sub u

/-! ### all paragraphs -/

theorem atoms_dropWhileSpTab (s : Str) : atoms (dropWhileSpTab s) = atoms s := by
  have e : dropWhileSpTab s = lstripSpTab s := by
    induction s with
    | nil => rfl
    | cons c cs ih => unfold dropWhileSpTab lstripSpTab; rw [ih]
  simpa [e] using atoms_lstripSpTab s []

theorem atoms_skipBlankLines (fuel : Nat) (s : Str) : atoms (skipBlankLines fuel s) = atoms s := by
  induction fuel generalizing s with
  | zero => rfl
  | succ n ih =>
    unfold skipBlankLines
    split
    · rename_i rest heq
      rw [ih, ← atoms_dropWhileSpTab s, heq, atoms_cons_sep '\n' rest (by decide)]
    · rfl

/-- the paragraph splitter cuts at separators only: the pieces have exactly the words of the text -/
theorem splitParagraphsAux_atoms_eq (fuel : Nat) (text cur : Str) (hlen : text.length < fuel) :
    atoms (cur.reverse ++ text) = (splitParagraphsAux fuel text cur).flatMap atoms := by
  fun_induction splitParagraphsAux fuel text cur with
  | case1 => omega
  | case2 => simp
  | case3 fuel c rest cur hc ih =>
    -- a paragraph break: `\n\n`, then the blank lines that are skipped
    rw [Bool.and_eq_true, decide_eq_true_eq] at hc
    obtain ⟨r2, rfl⟩ : ∃ r2, rest = '\n' :: r2 := by
      cases rest with
      | nil => cases hc.2
      | cons d ds => exact ⟨ds, by rw [of_decide_eq_true hc.2]⟩
    obtain ⟨pre, hpre⟩ := Props.C06.skipBlankLines_suffix ('\n' :: r2).length r2
    have := ih (by
      have := congrArg List.length hpre
      simp only [List.length_append, List.length_cons, List.tail_cons] at this hlen ⊢
      omega)
    rw [List.reverse_nil, List.nil_append, List.tail_cons, atoms_skipBlankLines] at this
    rw [hc.1, List.flatMap_cons, atoms_sep cur.reverse _ '\n' (by decide), atoms_cons_sep '\n' r2 (by decide), this, List.tail_cons]
  | case4 fuel c rest cur _ ih =>
    have := ih (by simp at hlen; omega)
    rwa [List.reverse_cons, List.append_assoc] at this

theorem splitParagraphsAux_atoms (fuel : Nat) : ∀ (text cur : Str), text.length < fuel →
    Sub (atoms (cur.reverse ++ text)) ((splitParagraphsAux fuel text cur).flatMap atoms) :=
  fun text cur hlen => splitParagraphsAux_atoms_eq fuel text cur hlen ▸ Sub.refl _

/-- **every word of the text appears in a key or a value of one of the mappings of `get_paragraphs_data(text)`** -/
theorem paragraphs_words (t : Str) : Sub (atoms t) ((getParagraphsData t).flatMap dictAtoms) := by
  intro x hx
  obtain ⟨piece, hp, hxp⟩ := List.mem_flatMap.mp (splitParagraphsAux_atoms (t.length + 1) t [] (Nat.lt_succ_self _) x hx)
  have hne : piece.isEmpty = false := by
    cases piece with
    | nil => cases hxp
    | cons _ _ => rfl
  rw [getParagraphsData, splitInParagraphs, List.flatMap_map]
  exact List.mem_flatMap.mpr ⟨piece, List.mem_filter.mpr ⟨hp, by rw [hne]; rfl⟩, paragraph_words piece x hxp⟩

/-- **C08 for every text** -/
theorem sound (t : Str) : holdsOn t (model t) = true := by
  unfold holdsOn model
  simp only [Bool.and_eq_true]
  exact ⟨(subset_iff _ _).mpr (paragraph_words t), (subset_iff _ _).mpr (paragraphs_words t)⟩

/-- non-vacuity: the words of a text with a repeated field, a continuation line, a body and a second paragraph -/
example : atoms "Package: a\nDepends: b,\n c (>= 1)\nPackage: A\n\nbody: x\n\n\nSecond: p".toList =
    ["package", "a", "depends", "b,", "c", "(>=", "1)", "package", "a", "body", "x", "second", "p"].map String.toList := by
  -- the literals as character lists: the kernel would otherwise encode each to UTF-8 and decode it again
  simp only [List.map_cons, List.map_nil]
  repeat rw [String.toList_ofList]
  decide +kernel

end Props.C08W
