/-
C09 — classification and year-range theorems; the typed value of the field kinds 0 to 5 of the grammar (kind 6, which
needs the raw value of a field, is `Props.C09G.lineSep_typed`).
-/
import DebInspector.Props.C09
import DebInspector.Proofs.Words

namespace Props.C09
open Py Model.Deb822 Model.Copyright

theorem contains_name (fields : List Fld) (n : Str) :
    (fields.map (·.name)).contains n = true ↔ ∃ f ∈ fields, f.name = n := by
  simp only [List.contains_iff_mem, List.mem_map]

theorem not_contains_name {fields : List Fld} {n : Str} (h : ∀ f ∈ fields, f.name ≠ n) :
    (fields.map (·.name)).contains n = false :=
  Bool.eq_false_iff.mpr fun hc => let ⟨f, hf, e⟩ := (contains_name fields n).mp hc; h f hf e

/-- the classifier looks at field names only: what else the group holds, and in what order, does not matter -/
theorem classify_header (fields : List Fld) (h : ∃ f ∈ fields, f.name = "format".toList ∨ f.name = "format-specification".toList) :
    classify fields = .header := by
  obtain ⟨f, hf, hn⟩ := h
  rw [classify, if_pos]
  simp only [Bool.or_eq_true, contains_name]
  exact hn.imp (⟨f, hf, ·⟩) (⟨f, hf, ·⟩)

theorem classify_files (fields : List Fld)
    (h0 : ∀ f ∈ fields, f.name ≠ "format".toList ∧ f.name ≠ "format-specification".toList)
    (h : ∃ f ∈ fields, f.name = "files".toList) : classify fields = .files := by
  simp only [classify, not_contains_name fun f hf => (h0 f hf).1, not_contains_name fun f hf => (h0 f hf).2,
    (contains_name _ _).mpr h, Bool.or_self, Bool.false_eq_true, if_false, if_true]

theorem classify_license (fields : List Fld)
    (h0 : ∀ f ∈ fields, f.name ≠ "format".toList ∧ f.name ≠ "format-specification".toList ∧ f.name ≠ "files".toList)
    (h : ∃ f ∈ fields, f.name = "license".toList) : classify fields = .license := by
  simp only [classify, not_contains_name fun f hf => (h0 f hf).1, not_contains_name fun f hf => (h0 f hf).2.1,
    not_contains_name fun f hf => (h0 f hf).2.2, (contains_name _ _).mpr h, Bool.or_self, Bool.false_eq_true,
    if_false, if_true]

/-! ### the character classes of `is_year_range` -/

/-- the punctuation class extracted from `is_year_range` is the space, the ten ASCII digits and the punctuation of
the specification -/
theorem yearPunct_perm : yearPunct.Perm (' ' :: ((List.range' 48 10).map Char.ofNat ++ Dep5.punct)) := by
  decide +kernel

theorem yearPunct_mem (c : Char) : c ∈ yearPunct ↔ c = ' ' ∨ c.isDigit = true ∨ c ∈ Dep5.punct := by
  rw [yearPunct_perm.mem_iff, List.mem_cons, List.mem_append, isDigit_iff_mem]

theorem punct_subset : ∀ c ∈ Dep5.punct, yearPunct.contains c = true :=
  fun c hc => List.contains_iff_mem.mpr ((yearPunct_mem c).mpr (Or.inr (Or.inr hc)))

theorem digit_facts {c : Char} (h : c.isDigit = true) : isDigitU c = true ∧ yearPunct.contains c = true :=
  ⟨by rw [isDigitU_ascii (asciiDigit_lt h)]; exact h,
   List.contains_iff_mem.mpr ((yearPunct_mem c).mpr (Or.inr (Or.inl h)))⟩

theorem punct_ascii : ∀ c ∈ Dep5.punct, c.toNat < 128 := by decide +kernel

theorem yearPunct_char (c : Char) (hsp : c ≠ ' ') :
    yearPunct.contains c = (isAsciiDigit c || Dep5.punct.contains c) := by
  rw [Bool.eq_iff_iff, Bool.or_eq_true, List.contains_iff_mem, List.contains_iff_mem, yearPunct_mem]
  exact ⟨fun h => h.resolve_left hsp, Or.inr⟩

/-- on a word without spaces, the model of `is_year_range` is the specification's year range -/
theorem isYearRange_eq_spec (t : Str) (hsp : ' ' ∉ t) :
    isYearRange t = Dep5.isYearSpec t := by
  have h2 : t.all (yearPunct.contains ·) = t.all (fun c => isAsciiDigit c || Dep5.punct.contains c) :=
    all_congr_mem _ _ _ fun c hc => yearPunct_char c (fun e => hsp (e ▸ hc))
  unfold isYearRange Dep5.isYearSpec
  rw [h2]
  cases hall : t.all (fun c => isAsciiDigit c || Dep5.punct.contains c) with
  | false => rfl
  | true =>
    -- every character is ASCII, where the two notions of digit agree
    have h3 : t.any isDigitU = t.any isAsciiDigit := by
      apply any_congr_mem
      intro c hc
      have := List.all_eq_true.mp hall c hc
      have hascii : c.toNat < 128 := by
        simp only [Bool.or_eq_true] at this
        rcases this with hd | hp
        · exact asciiDigit_lt hd
        · exact punct_ascii c (List.contains_iff_mem.mp hp)
      exact isDigitU_ascii hascii
    rw [h3]

/-- **year ranges**: every token the specification calls a year range — `2001`, `2001-2003,`, `1999/2000`, `２０１８` —
is taken as one by the model of `is_year_range` -/
theorem yearSpec_isYearRange (t : Str) (hsp : ' ' ∉ t) (h : Dep5.isYearSpec t = true) : isYearRange t = true := by
  rw [isYearRange_eq_spec t hsp]; exact h

open Model.Debcon Props.Dep5 Proofs.Splitlines Proofs.Words

/-! ### continuation lines of the grammar decode to what they spell -/

theorem plain_noB (s : Str) (h : plain s = true) : NoB s := by
  intro c hc
  have := List.all_eq_true.mp h c hc
  simp only [Bool.and_eq_true, Bool.not_eq_true'] at this
  exact this.1

theorem plain_sp {s : Str} (h : plain s = true) : plain (' ' :: s) = true := by
  simp only [plain, List.all_cons, Bool.and_eq_true] at h ⊢
  exact ⟨by decide, h⟩

theorem trimmed_iff (s : Str) : trimmed s = true ↔ headP isSpace s = false ∧ lastP isSpace s = false := by
  simp only [trimmed, Bool.and_eq_true, Bool.not_eq_true']

theorem trimmed_head {s : Str} (h : trimmed s = true) : headP isSpace s = false := ((trimmed_iff s).mp h).1

theorem strip_trimmed (s : Str) (h : trimmed s = true) : strip s = s :=
  strip_of_head_last ((trimmed_iff s).mp h).1 ((trimmed_iff s).mp h).2

theorem tline_cases (l : TLine) (h : tlineOk l = true) :
    (l.kind = 0 ∧ l.content ≠ [] ∧ plain l.content = true ∧ trimmed l.content = true ∧ headP (· == '.') l.content = false) ∨
    (l.kind = 1 ∧ l.content = []) ∨
    (l.kind = 2 ∧ l.content ≠ [] ∧ plain l.content = true ∧ lastP isSpace l.content = false) := by
  unfold tlineOk at h
  split at h
  · next hk =>
    simp only [Bool.and_eq_true, Bool.not_eq_true', List.isEmpty_eq_false_iff] at h
    exact Or.inl ⟨hk, h.1.1.1, h.1.1.2, h.1.2, h.2⟩
  · next hk => exact Or.inr (Or.inl ⟨hk, List.isEmpty_iff.mp h⟩)
  · next hk =>
    simp only [Bool.and_eq_true, Bool.not_eq_true', List.isEmpty_eq_false_iff] at h
    exact Or.inr (Or.inr ⟨hk, h.1.1, h.1.2, h.2⟩)
  · cases h

theorem tline0 {l : TLine} (hk : l.kind = 0) (h : tlineOk l = true) :
    l.content ≠ [] ∧ plain l.content = true ∧ trimmed l.content = true ∧ headP (· == '.') l.content = false := by
  rcases tline_cases l h with ⟨_, h0⟩ | ⟨h1, _⟩ | ⟨h2, _⟩
  · exact h0
  · omega
  · omega

theorem rawLine_ne (l : TLine) : rawLine l ≠ [] := by
  unfold rawLine
  split <;> simp

/-- a paragraph line: one space of indentation, which `from_formatted_lines` strips -/
theorem decLine_para {s : Str} (hne : s ≠ []) (htr : trimmed s = true) (hdot : headP (· == '.') s = false) :
    decLine (' ' :: s) = s := by
  obtain ⟨c, cs, rfl⟩ := List.exists_cons_of_ne_nil hne
  obtain ⟨hh, hl⟩ := (trimmed_iff _).mp htr
  have hcs : isSpace c = false := hh
  have hr : rstrip (c :: cs) = c :: cs := rstrip_of_lastNonspace _ hne hl
  have hr' : rstrip (' ' :: c :: cs) = ' ' :: c :: cs :=
    rstrip_of_lastNonspace _ (List.cons_ne_nil _ _) (by rwa [lastP_cons_ne_nil _ _ _ hne])
  have hsp : c ≠ ' ' := fun e => by rw [e] at hcs; exact absurd hcs (by decide)
  have hd : c ≠ '.' := by simpa [headP] using hdot
  unfold decLine
  simp only [hr']
  simp [startsWith, hsp, hd, strip, lstrip, hcs, hr, sp_space]

/-- a verbatim line: two spaces or more, of which one is dropped -/
theorem decLine_verb {s : Str} (hne : s ≠ []) (hl : lastP isSpace s = false) : decLine (' ' :: ' ' :: s) = ' ' :: s := by
  have hr : rstrip (' ' :: ' ' :: s) = ' ' :: ' ' :: s :=
    rstrip_of_lastNonspace _ (List.cons_ne_nil _ _)
      (by rwa [lastP_cons_ne_nil _ _ _ (List.cons_ne_nil _ _), lastP_cons_ne_nil _ _ _ hne])
  unfold decLine
  simp only [hr]
  simp [startsWith]

/-- what the proofs use of a continuation line of a text: as written it has no line boundary inside, and
`from_formatted_lines` decodes it to what the grammar says it spells -/
structure TFacts (l : TLine) : Prop where
  rawNoB : NoB (rawLine l)
  dec : decLine (rawLine l) = decodeLine l

theorem tline_facts (l : TLine) (h : tlineOk l = true) : TFacts l := by
  rcases tline_cases l h with ⟨hk, hne, hpl, htr, hdot⟩ | ⟨hk, _⟩ | ⟨hk, hne, hpl, hl⟩
  · have hraw : rawLine l = ' ' :: l.content := by simp only [rawLine, hk]
    have hdec : decodeLine l = l.content := by simp only [decodeLine, hk]
    exact ⟨hraw ▸ NoB_sp (plain_noB _ hpl), by rw [hraw, hdec]; exact decLine_para hne htr hdot⟩
  · have hraw : rawLine l = [' ', '.'] := by simp only [rawLine, hk]
    have hdec : decodeLine l = [] := by simp only [decodeLine, hk]
    exact ⟨hraw ▸ NoB_sp fun c hc => by rw [List.mem_singleton.mp hc]; decide, by rw [hraw, hdec]; decide⟩
  · have hraw : rawLine l = ' ' :: ' ' :: l.content := by simp only [rawLine, hk]
    have hdec : decodeLine l = ' ' :: l.content := by simp only [decodeLine, hk]
    exact ⟨hraw ▸ NoB_sp (NoB_sp (plain_noB _ hpl)), by rw [hraw, hdec]; exact decLine_verb hne hl⟩

/-! ### what `fieldOk` asks of a field, kind by kind -/

theorem fieldOk_base (f : Field) (h : fieldOk f = true) : labelOk f = true ∧ plain f.first = true ∧ trimmed f.first = true := by
  rw [fieldOk, Bool.and_eq_true, Bool.and_eq_true, Bool.and_eq_true] at h
  exact ⟨h.1.1.1, h.1.1.2, h.1.2⟩

theorem fieldOk_kind (f : Field) (h : fieldOk f = true) {k : Nat} (hk : f.kind = k) :
    match (generalizing := false) k with
    | 0 => f.first ≠ [] ∧ f.conts = []
    | 1 | 2 => singleSpaced f.first = true ∧ ∀ l ∈ f.conts, itemOk l = true
    | 3 => f.first ≠ [] ∧ blockOk f.conts = true
    | 4 => (if f.first.isEmpty then blockOk f.conts else bodyOk f.conts) = true ∧ (f.first ≠ [] ∨ f.conts ≠ [])
    | 5 | 6 => f.first ≠ [] ∧ ∀ l ∈ f.conts, l.kind = 0 ∧ tlineOk l = true
    | _ => False := by
  rw [fieldOk, Bool.and_eq_true, hk] at h
  have hm := h.2
  split <;> simp only [] at hm
  · simpa only [Bool.and_eq_true, Bool.not_eq_true', List.isEmpty_eq_false_iff, List.isEmpty_iff] using hm
  · simpa only [Bool.and_eq_true, List.all_eq_true] using hm
  · simpa only [Bool.and_eq_true, List.all_eq_true] using hm
  · simpa only [Bool.and_eq_true, Bool.not_eq_true', List.isEmpty_eq_false_iff] using hm
  · simpa only [Bool.and_eq_true, Bool.or_eq_true, Bool.not_eq_true', List.isEmpty_eq_false_iff] using hm
  · simpa only [Bool.and_eq_true, Bool.not_eq_true', List.isEmpty_eq_false_iff, List.all_eq_true, beq_iff_eq] using hm
  · simpa only [Bool.and_eq_true, Bool.not_eq_true', List.isEmpty_eq_false_iff, List.all_eq_true, beq_iff_eq] using hm
  · exact Bool.false_ne_true hm

theorem kind_cases (f : Field) (h : fieldOk f = true) :
    f.kind = 0 ∨ f.kind = 1 ∨ f.kind = 2 ∨ f.kind = 3 ∨ f.kind = 4 ∨ f.kind = 5 ∨ f.kind = 6 := by
  match hk : f.kind with
  | 0 | 1 | 2 | 3 | 4 | 5 | 6 => simp
  | n + 7 => exact (fieldOk_kind f h hk).elim

/-! ### `joinNl` is `join` with a line feed -/

theorem joinNl5_eq_join (ls : List Str) : Dep5.joinNl ls = join ['\n'] ls :=
  eq_join rfl (fun _ => rfl) (fun _ _ _ => rfl) ls

theorem joinNl_eq (ls : List Str) : Dep5.joinNl ls = Model.Debcon.joinNl ls :=
  (joinNl5_eq_join ls).trans (joinNl_eq_join ls).symm

/-- the `lstrip` of `from_fields` does nothing to such a value -/
theorem lstrip_joinNl (l : Str) (ls : List Str) (h : l ≠ []) (htr : trimmed l = true) :
    lstrip (Model.Debcon.joinNl (l :: ls)) = Model.Debcon.joinNl (l :: ls) :=
  lstrip_of_head (by rw [joinNl_headP _ l ls h]; exact trimmed_head htr)

theorem splitlines_value (first : Str) (conts : List TLine) (hf : NoB first) (hfne : first ≠ [])
    (hc : ∀ l ∈ conts, NoB (rawLine l)) :
    splitlines (Model.Debcon.joinNl (first :: conts.map rawLine)) = first :: conts.map rawLine := by
  rw [splitlines_joinNl _ (List.forall_mem_cons.mpr ⟨hf, List.forall_mem_map.mpr hc⟩)]
  apply dropLastEmpty_id
  intro l hl
  rcases List.mem_cons.mp (List.mem_of_getLast? hl) with rfl | hm
  · exact hfne
  · obtain ⟨t, _, rfl⟩ := List.mem_map.mp hm
    exact rawLine_ne t

theorem map_decLine_raw (conts : List TLine) (hc : ∀ l ∈ conts, TFacts l) :
    (conts.map rawLine).map decLine = conts.map decodeLine := by
  rw [List.map_map]
  exact List.map_congr_left fun l hl => (hc l hl).dec

theorem fromFormattedLines_block (conts : List TLine) (hne : conts ≠ []) (hb : blockOk conts = true) :
    fromFormattedLines (conts.map rawLine) = Model.Debcon.joinNl (conts.map decodeLine) ∧
    headP isSpace (Model.Debcon.joinNl (conts.map decodeLine)) = false ∧
    Model.Debcon.joinNl (conts.map decodeLine) ≠ [] := by
  simp only [blockOk, Bool.and_eq_true, List.all_eq_true] at hb
  obtain ⟨⟨hall, hhead⟩, _⟩ := hb
  cases conts with
  | nil => exact absurd rfl hne
  | cons t ts =>
    have hk : t.kind = 0 := by simpa using hhead
    obtain ⟨hcne, _, htrim, _⟩ := tline0 hk (hall t List.mem_cons_self)
    have hdec : decodeLine t = t.content := by simp [decodeLine, hk]
    have hstrip : strip (rawLine t) = t.content := by
      have := strip_trimmed t.content htrim
      simpa only [rawLine, hk, strip, lstrip, sp_space, if_true] using this
    refine ⟨?_, ?_, ?_⟩
    · simp only [List.map_cons, fromFormattedLines, hstrip, hdec]
      rw [map_decLine_raw ts fun l hl => tline_facts l (hall l (List.mem_cons_of_mem _ hl))]
    · rw [List.map_cons, hdec, joinNl_headP _ _ _ hcne]; exact trimmed_head htrim
    · rw [List.map_cons, hdec]; exact joinNl_ne_nil' _ _ hcne

/-- **license fields**: the short name is the first line, the text the decoded continuation lines -/
theorem license_typed (f : Field) (hk : f.kind = 3) (h : fieldOk f = true) :
    fromValue "LicenseField" (some (Model.Debcon.joinNl (f.first :: f.conts.map rawLine))) = expectedFV f := by
  obtain ⟨_, hpl, htrim⟩ := fieldOk_base f h
  obtain ⟨hfne, hblock⟩ := fieldOk_kind f h hk
  have hbo := hblock
  simp only [blockOk, Bool.and_eq_true, List.all_eq_true] at hbo
  have hsl := splitlines_value f.first f.conts (plain_noB _ hpl) hfne fun l hl => (tline_facts l (hbo.1.1 l hl)).rawNoB
  simp only [fromValue, String.reduceEq, if_false, Option.getD_some, expectedFV, hk, licenseFromValue,
    descriptionFromValue, lineSeparated, joinNl_isEmpty _ _ hfne, Bool.false_eq_true, hsl, strip_trimmed _ htrim]
  cases hc : f.conts with
  | nil => simp
  | cons t ts =>
    rw [hc] at hblock
    obtain ⟨h1, h2, h3⟩ := fromFormattedLines_block (t :: ts) (by simp) hblock
    simp only [List.map_cons, List.isEmpty_cons, Bool.false_eq_true, if_false, Option.map_some] at h1 h2 h3 ⊢
    rw [h1]
    simp only [List.isEmpty_eq_false_iff.mpr h3, Bool.false_eq_true, if_false, lstrip_of_head h2, joinNl_eq]

theorem formatted_conts_ok (f : Field) (hk : f.kind = 4) (h : fieldOk f = true) : ∀ l ∈ f.conts, tlineOk l = true := by
  have hblock := (fieldOk_kind f h hk).1
  by_cases hfe : f.first.isEmpty = true
  · simp only [hfe, if_true, blockOk, Bool.and_eq_true, List.all_eq_true] at hblock
    exact hblock.1.1
  · simp only [hfe, Bool.false_eq_true, if_false, bodyOk, Bool.and_eq_true, List.all_eq_true] at hblock
    exact hblock.1

/-- a formatted text whose first line is `a` (on the declaration line or on the first continuation line) -/
theorem formatted_value (a : Str) (ts : List TLine) (hne : a ≠ []) (hpl : plain a = true) (htr : trimmed a = true)
    (hfacts : ∀ l ∈ ts, TFacts l) :
    fromValue "FormattedTextField" (some (Model.Debcon.joinNl (a :: ts.map rawLine))) =
      .formatted (some (Dep5.joinNl (a :: ts.map decodeLine))) := by
  simp only [fromValue, String.reduceEq, if_false, if_true, Option.map_some, joinNl_isEmpty a _ hne, Bool.false_eq_true,
    fromFormattedText, lineSeparated, splitlines_value a ts (plain_noB _ hpl) hne fun l hl => (hfacts l hl).rawNoB,
    fromFormattedLines, strip_trimmed _ htr]
  rw [map_decLine_raw ts hfacts, joinNl_eq]

/-- **formatted-text fields** (Comment, Source, Disclaimer), as `from_fields` hands them over
(left-stripped): the text is the first line, if any, and the decoded continuation lines -/
theorem formatted_typed (f : Field) (hk : f.kind = 4) (h : fieldOk f = true) :
    fromValue "FormattedTextField" (some (lstrip (Model.Debcon.joinNl (f.first :: f.conts.map rawLine)))) = expectedFV f := by
  have hall := formatted_conts_ok f hk h
  have hfacts : ∀ l ∈ f.conts, TFacts l := fun l hl => tline_facts l (hall l hl)
  obtain ⟨_, hpl, htrim⟩ := fieldOk_base f h
  obtain ⟨hblock, hsome⟩ := fieldOk_kind f h hk
  by_cases hfe : f.first = []
  · -- the value starts on the first continuation line, a paragraph line: left-stripping removes the line break and
    -- its indentation
    cases hc : f.conts with
    | nil => exact absurd hc (hsome.resolve_left (absurd hfe))
    | cons t ts =>
      rw [hc] at hall hfacts
      have hk0 : t.kind = 0 := by
        simp only [hfe, hc, blockOk, List.isEmpty_nil, if_true, List.head?_cons, Bool.and_eq_true] at hblock
        simpa using hblock.1.2
      obtain ⟨hcne, hcpl, hctr, _⟩ := tline0 hk0 (hall t List.mem_cons_self)
      have hl : lstrip (Model.Debcon.joinNl ([] :: (t :: ts).map rawLine)) =
          Model.Debcon.joinNl (t.content :: ts.map rawLine) := by
        have hnl : isSpace '\n' = true := by decide
        have e : Model.Debcon.joinNl ([] :: (t :: ts).map rawLine) =
            '\n' :: ' ' :: Model.Debcon.joinNl (t.content :: ts.map rawLine) := by
          cases ts <;> simp [Model.Debcon.joinNl, rawLine, hk0]
        rw [e]
        simp only [lstrip, hnl, sp_space, if_true]
        exact lstrip_joinNl _ _ hcne hctr
      rw [hfe, hl, formatted_value t.content ts hcne hcpl hctr fun l hl => hfacts l (List.mem_cons_of_mem _ hl)]
      simp [expectedFV, hk, hfe, hc, decodeLine, hk0]
  · rw [lstrip_joinNl _ _ hfe htrim, formatted_value f.first f.conts hfe hpl htrim hfacts]
    simp [expectedFV, hk, hfe]

/-! ### white-space lists and copyright statements -/

/-- `singleSpaced s` in the form the proofs use: not empty, `plain`, `trimmed`, no two U+0020 in a row (`pieces`), and no
white space other than U+0020 (`onlySp`) -/
structure SS (s : Str) : Prop where
  ne : s ≠ []
  pl : plain s = true
  tr : trimmed s = true
  pieces : ∀ p ∈ splitChar ' ' s, p ≠ []
  onlySp : ∀ c ∈ s, isSpace c = true → c = ' '

theorem ss_of (s : Str) (h : singleSpaced s = true) : SS s := by
  simp only [singleSpaced, Bool.and_eq_true, Bool.not_eq_true', List.isEmpty_eq_false_iff, List.all_eq_true,
    Bool.or_eq_true, beq_iff_eq] at h
  obtain ⟨⟨⟨⟨h1, h2⟩, h3⟩, h4⟩, h5⟩ := h
  refine ⟨h1, h2, h3, fun p hp => h4 p hp, fun c hc hs => ?_⟩
  rcases h5 c hc with h | h
  · rw [hs] at h; cases h
  · exact h

/-- the only white space of a single-spaced text is the U+0020 its words are split at -/
theorem SS.word_no_space {s w : Str} (h : SS s) (hw : w ∈ splitChar ' ' s) : ∀ c ∈ w, isSpace c = false := by
  intro c hc
  cases hs : isSpace c with
  | false => rfl
  | true =>
    exact absurd (h.onlySp c (mem_of_mem_splitChar ' ' s w hw c hc) hs ▸ hc) (splitChar_no_sep ' ' s w hw)

theorem splitWs_singleSpaced (s : Str) (h : SS s) : splitWs s = splitChar ' ' s := by
  have := splitWs_join (splitChar ' ' s) fun w hw => ⟨h.pieces w hw, h.word_no_space hw⟩
  rwa [join_splitChar] at this

theorem splitWs_lead_spaces (k : Nat) (s : Str) : splitWs (List.replicate k ' ' ++ s) = splitWs s :=
  splitWs_lpad _ s fun _ hc => List.eq_of_mem_replicate hc ▸ sp_space

/-- what the proofs use of an item line (`itemOk`): it is written with one space of indentation, its content is `plain`,
and the item text (the content without further U+0020 in front) is single-spaced -/
structure IFacts (l : TLine) : Prop where
  raw : rawLine l = ' ' :: l.content
  ss : SS (itemText l)
  pl : plain l.content = true

theorem item_facts (l : TLine) (h : itemOk l = true) : IFacts l := by
  simp only [itemOk, Bool.or_eq_true, Bool.and_eq_true, beq_iff_eq, Bool.not_eq_true'] at h
  rcases h with ⟨⟨hk, hss⟩, _⟩ | ⟨⟨hk, hpl⟩, hss⟩
  · have hs := ss_of _ hss
    have hit : itemText l = l.content := dropWhile_sp_id _ (trimmed_head hs.tr)
    exact ⟨by simp [rawLine, hk], hit ▸ hs, hs.pl⟩
  · exact ⟨by simp [rawLine, hk], ss_of _ hss, hpl⟩

theorem item_raw_noB (l : TLine) (h : itemOk l = true) : NoB (rawLine l) := by
  have hf := item_facts l h
  rw [hf.raw]
  exact NoB_sp (plain_noB _ hf.pl)

theorem item_splitWs (l : TLine) (h : itemOk l = true) : splitWs (rawLine l) = splitChar ' ' (itemText l) := by
  have hf := item_facts l h
  rw [hf.raw, splitWs_cons_space ' ' _ sp_space, content_decomp l.content, splitWs_lead_spaces]
  exact splitWs_singleSpaced _ hf.ss

/-- **white-space lists** (Files, Files-Excluded): the items of every line, in order -/
theorem wsSep_typed (f : Field) (hk : f.kind = 1) (h : fieldOk f = true) :
    fromValue "AnyWhiteSpaceSeparatedField" (some (Model.Debcon.joinNl (f.first :: f.conts.map rawLine))) = expectedFV f := by
  obtain ⟨hfirst, hconts⟩ := fieldOk_kind f h hk
  simp only [fromValue, String.reduceEq, if_false, if_true, expectedFV, hk, splitWs_joinNl, List.flatMap_cons]
  rw [splitWs_singleSpaced f.first (ss_of _ hfirst), List.flatMap_map,
    flatMap_congr fun l hl => item_splitWs l (hconts l hl)]

/-- **single-line fields** (Format, Upstream-Name) -/
theorem single_typed (f : Field) (hk : f.kind = 0) (h : fieldOk f = true) :
    fromValue "SingleLineField" (some (Model.Debcon.joinNl (f.first :: f.conts.map rawLine))) = expectedFV f := by
  obtain ⟨_, hc⟩ := fieldOk_kind f h hk
  simp [fromValue, expectedFV, hk, hc, Model.Debcon.joinNl, strip_trimmed _ (fieldOk_base f h).2.2]

/-- **unknown fields** are kept verbatim: first line and continuation lines as written -/
theorem extra_typed (f : Field) (hk : f.kind = 5) (h : fieldOk f = true) :
    lstrip (Model.Debcon.joinNl (f.first :: f.conts.map rawLine)) = expectedExtra f := by
  rw [expectedExtra, joinNl_eq]
  exact lstrip_joinNl _ _ (fieldOk_kind f h hk).1 (fieldOk_base f h).2.2

theorem joinSp_eq (ws : List Str) : Dep5.splitStatement.joinSp ws = join [' '] ws :=
  eq_join rfl (fun _ => rfl) (fun _ _ _ => rfl) ws

theorem SS.strip_rest {s t r : Str} {rs : List Str} (h : SS s) (hsc : splitChar ' ' s = t :: r :: rs) :
    strip (join [' '] (r :: rs)) = join [' '] (r :: rs) := by
  have hr : r ∈ splitChar ' ' s := by rw [hsc]; simp
  obtain ⟨c, cs, rfl⟩ := List.exists_cons_of_ne_nil (h.pieces r hr)
  have hhead : headP isSpace (join [' '] ((c :: cs) :: rs)) = false := by
    have : headP isSpace (join [' '] ((c :: cs) :: rs)) = isSpace c := by cases rs <;> rfl
    rw [this]; exact h.word_no_space hr c List.mem_cons_self
  have hlast := ((trimmed_iff s).mp h.tr).2
  rw [← join_splitChar ' ' s, hsc, join1_cons2, lastP_append_cons,
    lastP_cons_ne_nil _ _ _ (join_ne_nil _ _ rs (List.cons_ne_nil c cs))] at hlast
  exact strip_of_head_last hhead hlast

/-- **one copyright statement**: an optional leading year range, then the holder -/
theorem statement_eq (s : Str) (h : SS s) :
    statementFromValue s = Dep5.splitStatement s := by
  have hval : join [' '] (splitWs s) = s := by rw [splitWs_singleSpaced s h, join_splitChar]
  unfold statementFromValue Dep5.splitStatement
  simp only [hval]
  cases hsc : splitChar ' ' s with
  | nil => exact absurd hsc (splitChar_ne_nil ' ' s)
  | cons t rest =>
    have ht : t ∈ splitChar ' ' s := by rw [hsc]; simp
    have htsp : ' ' ∉ t := splitChar_no_sep ' ' s t ht
    have hyr := isYearRange_eq_spec t htsp
    have hstript : strip t = t := strip_of_all (h.word_no_space ht)
    have hjs : join [' '] (t :: rest) = s := by rw [← hsc, join_splitChar]
    simp only
    cases rest with
    | nil =>
      have hst : s = t := hjs.symm
      rw [hst, partitionChar_not_mem ' ' t htsp]
      simp only [hstript, hyr]
      split
      · simp [strip, lstrip, rstrip, joinSp_eq, join]
      · rfl
    | cons r rs =>
      rw [← hjs, join1_cons2, partitionChar_split ' ' t _ htsp]
      simp only [hstript, hyr, h.strip_rest hsc]
      split
      · simp [joinSp_eq]
      · rfl

theorem statement_lead_space (s : Str) : statementFromValue (' ' :: s) = statementFromValue s := by
  unfold statementFromValue
  rw [splitWs_cons_space ' ' s sp_space]

theorem statement_lead_spaces (k : Nat) (s : Str) : statementFromValue (List.replicate k ' ' ++ s) = statementFromValue s := by
  induction k with
  | zero => rfl
  | succ k ih => rw [List.replicate_succ, List.cons_append, statement_lead_space, ih]

/-- **copyright fields**: one statement per line, each split into year range and holder -/
theorem copyright_typed (f : Field) (hk : f.kind = 2) (h : fieldOk f = true) :
    fromValue "CopyrightField" (some (Model.Debcon.joinNl (f.first :: f.conts.map rawLine))) = expectedFV f := by
  obtain ⟨hfirst, hconts⟩ := fieldOk_kind f h hk
  have hssf := ss_of _ hfirst
  have hv := joinNl_isEmpty f.first (f.conts.map rawLine) hssf.ne
  have hsl := splitlines_value f.first f.conts (plain_noB _ hssf.pl) hssf.ne (fun l hl => item_raw_noB l (hconts l hl))
  simp only [fromValue, String.reduceEq, if_false, if_true, expectedFV, hk, lineSeparated, hv, Bool.false_eq_true, hsl,
    List.map_cons, List.map_map]
  congr 2
  · exact statement_eq f.first hssf
  · apply List.map_congr_left
    intro l hl
    have hf := item_facts l (hconts l hl)
    simp only [Function.comp, hf.raw, statement_lead_space]
    rw [content_decomp l.content, statement_lead_spaces]
    exact statement_eq _ hf.ss

end Props.C09
