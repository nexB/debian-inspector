/-
C16 — the well-formed clause: for a well-formed clear-signed message (header block: none, or exactly one
`Hash:` line — the hypothesis of finding K6), preceded by blank lines and followed by any white space, LF or
CRLF, the model of `remove_signature` returns exactly the signed body.  The armor block matches at the signature's
BEGIN line and nothing matches at any later line, so the longest clear text ends right before it.
-/
import DebInspector.Thm.C16
import DebInspector.Proofs.AssocList
namespace Props.C16W
open Py Model.Unsign Props.C16

def sigBegin : Str := "-----BEGIN PGP SIGNATURE-----".toList
def crOf (b : Bool) : Str := if b then ['\r'] else []

theorem plainLine_iff (l : Str) : plainLine l = true ↔ '\n' ∉ l ∧ '\r' ∉ l := by
  simp [plainLine]

theorem noNl_of_all (p : Char → Bool) (l : Str) (h : ∀ c ∈ l, p c = true) (hp : p '\n' = false) : '\n' ∉ l :=
  not_mem_of_all h hp

theorem dropLast_append_singleton (l : Str) (c : Char) : (l ++ [c]).dropLast = l := by simp

theorem stripCr_cases (x : Str) : stripCr x = x ∨ x = stripCr x ++ ['\r'] := by
  unfold stripCr
  split
  · rename_i hl
    obtain ⟨a, d, e, hd⟩ := lastP_mem hl
    rw [e, dropLast_append_singleton, of_decide_eq_true hd]
    exact Or.inr rfl
  · exact Or.inl rfl

theorem stripCr_prefix (x : Str) : stripCr x <+: x := by
  rcases stripCr_cases x with e | e
  · rw [e]; exact List.prefix_refl x
  · exact ⟨_, e.symm⟩

theorem mem_stripCr (c : Char) (x : Str) (h : c ∈ x) (hc : c ≠ '\r') : c ∈ stripCr x := by
  rcases stripCr_cases x with e | e
  · rw [e]; exact h
  · rw [e, List.mem_append, List.mem_singleton] at h
    exact h.resolve_right hc

theorem stripCr_line (l : Str) (b : Bool) (h : '\r' ∉ l) : stripCr (l ++ crOf b) = l := by
  unfold stripCr
  cases b with
  | false => rw [crOf, if_neg Bool.false_ne_true, List.append_nil, lastP_of_not_mem h, if_neg Bool.false_ne_true]
  | true => rw [crOf, if_pos rfl, lastP_append_cons, lastP_single, if_pos (decide_eq_true rfl), dropLast_append_singleton]

theorem hasColonSpace_iff (l : Str) :
    hasColonSpace l = true ↔ ∃ a x y b, l = a ++ x :: ':' :: ' ' :: y :: b := by
  constructor
  · intro h
    fun_induction hasColonSpace l with
    | case1 x y b => exact ⟨[], x, y, b, rfl⟩
    | case2 c rest hne ih =>
      obtain ⟨a, x, y, b, e⟩ := ih h
      exact ⟨c :: a, x, y, b, by rw [e]; rfl⟩
    | case3 => cases h
  · rintro ⟨a, x, y, b, rfl⟩
    induction a with
    | nil => simp [hasColonSpace]
    | cons c cs ih =>
      simp only [List.cons_append]
      unfold hasColonSpace
      split
      · rfl
      · rename_i _ heq
        cases heq
        exact ih
      · rename_i heq; cases heq

theorem hasColonSpace_append (l s : Str) (h : hasColonSpace l = true) : hasColonSpace (l ++ s) = true := by
  obtain ⟨a, x, y, b, rfl⟩ := (hasColonSpace_iff l).mp h
  exact (hasColonSpace_iff _).mpr ⟨a, x, y, b ++ s, by simp⟩

theorem hasColonSpace_mem (l : Str) (h : hasColonSpace l = true) : ':' ∈ l := by
  obtain ⟨a, x, y, b, rfl⟩ := (hasColonSpace_iff l).mp h
  simp

theorem dropHeaderLines_headers (hs : List Str) (e r : Str) (rest : List Str)
    (hh : ∀ l ∈ hs, hasColonSpace l = true) (he : hasColonSpace e = false) :
    dropHeaderLines (hs ++ e :: r :: rest) = e :: r :: rest := by
  induction hs with
  | nil => simp [dropHeaderLines, he]
  | cons l ls ih =>
    obtain ⟨m, ms, hls⟩ : ∃ m ms, ls ++ e :: r :: rest = m :: ms := List.exists_cons_of_ne_nil (by simp)
    rw [List.cons_append, hls, dropHeaderLines, if_pos (hh l (by simp)), ← hls]
    exact ih (fun x hx => hh x (by simp [hx]))

theorem dropBodyLines_bodies (bs : List Str) (c r : Str) (rest : List Str)
    (hb : ∀ l ∈ bs, isBodyLine (stripCr l) = true) (hc : isBodyLine (stripCr c) = false) :
    dropBodyLines (bs ++ c :: r :: rest) = (c :: r :: rest, bs.length) := by
  induction bs with
  | nil => simp [dropBodyLines, hc]
  | cons l ls ih =>
    obtain ⟨m, ms, hls⟩ : ∃ m ms, ls ++ c :: r :: rest = m :: ms := List.exists_cons_of_ne_nil (by simp)
    rw [List.cons_append, hls, dropBodyLines, if_pos (hb l (by simp)), ← hls, ih (fun x hx => hb x (by simp [hx]))]
    rfl

/-- what `armorMatches` checks after the BEGIN line -/
def armorAfter (magic : Str) (ls : Lines) : Bool :=
  let r1 := dropHeaderLines ls
  let r2 := match r1 with
    | e :: (n :: more) => if (stripCr e).isEmpty then n :: more else r1
    | _ => r1
  let (r3, nbody) := dropBodyLines r2
  nbody ≥ 1 &&
  (match r3 with
   | crc :: (endl :: _) => isCrcLine (stripCr crc) && startsWith endl (endPgp ++ magic ++ dashes)
   | _ => false)

theorem armorMatches_magic_some (l0 : Str) (rest : List Str) (m : Str) (hne : rest ≠ [])
    (h : magicOf (stripCr l0) = some m) : armorMatches (l0 :: rest) = armorAfter m rest := by
  obtain ⟨l1, rest, rfl⟩ := List.exists_cons_of_ne_nil hne
  rw [armorMatches, h]
  rfl

theorem armorMatches_magic_none (x : Str) (rest : List Str) (h : magicOf (stripCr x) = none) :
    armorMatches (x :: rest) = false := by
  cases rest with
  | nil => rfl
  | cons r rs => rw [armorMatches, h]

theorem armorAfter_block (magic : Str) (hs : List Str) (e : Str) (bs : List Str) (c endl : Str) (tail : List Str)
    (hh : ∀ l ∈ hs, hasColonSpace l = true) (he : hasColonSpace e = false) (hee : (stripCr e).isEmpty = true)
    (hbne : bs ≠ []) (hb : ∀ l ∈ bs, isBodyLine (stripCr l) = true)
    (hc : isBodyLine (stripCr c) = false) (hcrc : isCrcLine (stripCr c) = true)
    (hend : startsWith endl (endPgp ++ magic ++ dashes) = true) :
    armorAfter magic (hs ++ e :: (bs ++ c :: endl :: tail)) = true := by
  obtain ⟨x, xs, rfl⟩ := List.exists_cons_of_ne_nil hbne
  unfold armorAfter
  rw [List.cons_append, dropHeaderLines_headers hs e x _ hh he]
  simp only [hee, if_true]
  rw [← List.cons_append, dropBodyLines_bodies (x :: xs) c endl tail hb hc]
  simpa [hcrc] using hend

theorem bodyLine_chars (l : Str) (h : isBodyLine l = true) : ∀ c ∈ l, isB64 c = true ∨ c = '=' := by
  intro c hc
  simp only [isBodyLine, Bool.and_eq_true, decide_eq_true_eq, List.all_eq_true] at h
  rw [← List.takeWhile_append_dropWhile (p := isB64) (l := l)] at hc
  rcases List.mem_append.mp hc with h1 | h1
  · exact Or.inl (List.all_eq_true.mp List.all_takeWhile c h1)
  · exact Or.inr (h.2 c h1)

theorem bodyLine_head (l : Str) (h : isBodyLine l = true) : ∃ c cs, l = c :: cs ∧ isB64 c = true := by
  cases l with
  | nil => cases h
  | cons c cs =>
    refine ⟨c, cs, rfl, ?_⟩
    cases hc : isB64 c with
    | true => rfl
    | false => simp [isBodyLine, List.takeWhile, hc] at h

theorem b64_ne {c d : Char} (h : isB64 c = true ∨ c = '=') (hd : (isB64 d || d == '=') = false) : c ≠ d := by
  rintro rfl
  rcases h with h | h <;> simp [h] at hd

theorem b64_not_cr {c : Char} (h : isB64 c = true ∨ c = '=') : (c = '\r') = False :=
  propext ⟨b64_ne h rfl, False.elim⟩

theorem bodyLine_not_mem (l : Str) (h : isBodyLine l = true) {d : Char} (hd : (isB64 d || d == '=') = false) : d ∉ l :=
  fun hm => b64_ne (bodyLine_chars l h d hm) hd rfl

theorem crcLine_facts (crc : Str) (hl : crc.length = 4) (ha : ∀ c ∈ crc, isB64 c = true) (b : Bool) :
    stripCr ('=' :: crc ++ crOf b) = '=' :: crc ∧ isBodyLine ('=' :: crc) = false ∧ isCrcLine ('=' :: crc) = true := by
  refine ⟨stripCr_line ('=' :: crc) b ?_, rfl, ?_⟩
  · intro hm
    rcases List.mem_cons.mp hm with h | h
    · cases h
    · exact not_mem_of_all ha (by decide) h
  · simpa [isCrcLine, hl] using ha

theorem magicOf_some {y m : Str} (h : magicOf y = some m) :
    y = beginPgp ++ m ++ dashes ∧ ∀ c ∈ m, isMagicChar c = true := by
  simp only [magicOf, Option.ite_none_right_eq_some, Bool.and_eq_true, decide_eq_true_eq, Option.some.injEq] at h
  obtain ⟨⟨⟨h1, h2⟩, hl⟩, ⟨_, hm⟩, rfl⟩ := h
  exact ⟨startsWith_endsWith_mid y _ _ h1 h2 (by omega), List.all_eq_true.mp hm⟩

theorem magicOf_none_of_not_prefix {y : Str} (h : ¬ beginPgp <+: y) : magicOf y = none := by
  cases hm : magicOf y with
  | none => rfl
  | some m => exact absurd ⟨_, ((magicOf_some hm).1.trans (List.append_assoc _ _ _)).symm⟩ h

/-! ### the marker lines: each literal is evaluated once -/

theorem beginPgp_facts : dashes <+: beginPgp ∧ ':' ∉ beginPgp ∧ ¬ (endPgp <+: beginPgp ∨ beginPgp <+: endPgp) := by
  decide +kernel

theorem beginSigned_facts : dashes <+: beginSigned ∧ plainLine beginSigned = true := by decide +kernel

theorem sigBegin_facts : magicOf sigBegin = some "SIGNATURE".toList ∧ plainLine sigBegin = true := by decide +kernel

theorem endSignature_facts : endSignature = endPgp ++ "SIGNATURE".toList ++ dashes ∧ plainLine endSignature = true ∧
    lastP (fun c => !isSpace c) endSignature = true := by
  decide +kernel

theorem dashes_beginPgp : dashes <+: beginPgp := beginPgp_facts.1
theorem dashes_beginSigned : dashes <+: beginSigned := beginSigned_facts.1
theorem magicOf_sigBegin : magicOf sigBegin = some "SIGNATURE".toList := sigBegin_facts.1
theorem endSignature_eq : endSignature = endPgp ++ "SIGNATURE".toList ++ dashes := endSignature_facts.1

theorem magicOf_colon (y : Str) (h : ':' ∈ y) : magicOf y = none := by
  cases hm : magicOf y with
  | none => rfl
  | some m =>
    obtain ⟨e, hmag⟩ := magicOf_some hm
    rw [e, List.mem_append, List.mem_append] at h
    rcases h with (h | h) | h
    · exact absurd h beginPgp_facts.2.1
    · exact absurd h (not_mem_of_all hmag rfl)
    · exact absurd (dashes_beginPgp.subset h) beginPgp_facts.2.1

theorem dashes_sigBegin : dashes <+: sigBegin :=
  dashes_beginPgp.trans ⟨_, ((magicOf_some magicOf_sigBegin).1.trans (List.append_assoc _ _ _)).symm⟩

theorem sigBegin_noCr : '\r' ∉ sigBegin := ((plainLine_iff _).mp sigBegin_facts.2).2

/-- the raw lines of an armor block, as `text.split('\n')` sees them -/
def armorR (b : Bool) (ah b64 : List Str) (crc suffix : Str) (tail : List Str) : List Str :=
  (sigBegin ++ crOf b) :: (ah.map (· ++ crOf b) ++ crOf b :: (b64.map (· ++ crOf b) ++
    ('=' :: crc ++ crOf b) :: (endSignature ++ suffix) :: tail))

theorem armor_ok (b : Bool) (ah b64 : List Str) (crc suffix : Str) (tail : List Str)
    (hah : ∀ l ∈ ah, hasColonSpace l = true) (hb : b64 ≠ []) (hb64 : ∀ l ∈ b64, isBodyLine l = true)
    (hcl : crc.length = 4) (hca : ∀ c ∈ crc, isB64 c = true) :
    armorMatches (armorR b ah b64 crc suffix tail) = true := by
  obtain ⟨c1, c2, c3⟩ := crcLine_facts crc hcl hca b
  rw [armorR, armorMatches_magic_some _ _ _ (by simp)
    (by rw [stripCr_line sigBegin b sigBegin_noCr]; exact magicOf_sigBegin)]
  apply armorAfter_block
  · exact List.forall_mem_map.mpr fun l hl => hasColonSpace_append l _ (hah l hl)
  · cases b <;> rfl
  · cases b <;> rfl
  · simpa using hb
  · refine List.forall_mem_map.mpr fun l hl => ?_
    rw [stripCr_line l b (bodyLine_not_mem l (hb64 l hl) rfl)]
    exact hb64 l hl
  · rw [c1]; exact c2
  · rw [c1]; exact c3
  · rw [endSignature_eq]; exact startsWith_self_append _ _

/-- a line at which no armor block can start -/
def Dead (x : Str) : Prop := startsWith x dashes = false ∨ magicOf (stripCr x) = none

theorem dead_no_match (x : Str) (rest : List Str) (h : Dead x) :
    (startsWith x dashes && armorMatches (x :: rest)) = false := by
  rcases h with h | h
  · rw [h]; rfl
  · rw [armorMatches_magic_none x rest h]; exact Bool.and_false _

theorem not_dashes (c : Char) (r : Str) (h : c ≠ '-') : startsWith (c :: r) dashes = false := by
  have : dashes = '-' :: "----".toList := by decide +kernel
  rw [this, startsWith, beq_eq_false_iff_ne.mpr h, Bool.false_and]

theorem dead_header (l : Str) (b : Bool) (h : hasColonSpace l = true) : Dead (l ++ crOf b) :=
  Or.inr (magicOf_colon _ (mem_stripCr _ _ (List.mem_append_left _ (hasColonSpace_mem l h)) (by decide)))

theorem dead_cr (b : Bool) : Dead (crOf b) := by
  cases b
  · exact Or.inl rfl
  · exact Or.inl (not_dashes _ _ (by decide))

theorem dead_body (l : Str) (b : Bool) (h : isBodyLine l = true) : Dead (l ++ crOf b) := by
  obtain ⟨c, cs, rfl, hc⟩ := bodyLine_head l h
  exact Or.inl (not_dashes c _ (b64_ne (Or.inl hc) rfl))

theorem dead_crc (crc : Str) (b : Bool) : Dead ('=' :: crc ++ crOf b) :=
  Or.inl (not_dashes _ _ (by decide))

theorem blank_not_dashes (t : Str) (h : ∀ c ∈ t, isSpace c = true) : startsWith t dashes = false := by
  cases t with
  | nil => rfl
  | cons c cs => exact not_dashes c cs fun e => not_mem_of_all h (c := '-') rfl (by simp [e])

theorem dead_blank (t : Str) (h : ∀ c ∈ t, isSpace c = true) : Dead t := Or.inl (blank_not_dashes t h)

/-- the END line begins like no BEGIN line -/
theorem dead_end (suffix : Str) : Dead (endSignature ++ suffix) := by
  refine Or.inr (magicOf_none_of_not_prefix fun hp => ?_)
  have h1 : endPgp <+: endSignature ++ suffix := by
    rw [endSignature_eq, List.append_assoc, List.append_assoc]; exact List.prefix_append _ _
  exact beginPgp_facts.2.2 (List.prefix_or_prefix_of_prefix h1 (hp.trans (stripCr_prefix _)))

/-- the lines after the signature's BEGIN line -/
def afterSig (b : Bool) (ah b64 : List Str) (crc suffix : Str) (tail : List Str) : List Str :=
  ah.map (· ++ crOf b) ++ crOf b :: (b64.map (· ++ crOf b) ++ ('=' :: crc ++ crOf b) :: (endSignature ++ suffix) :: tail)

theorem armorR_eq (b : Bool) (ah b64 : List Str) (crc suffix : Str) (tail : List Str) :
    armorR b ah b64 crc suffix tail = (sigBegin ++ crOf b) :: afterSig b ah b64 crc suffix tail := rfl

theorem afterSig_dead (b : Bool) (ah b64 : List Str) (crc suffix : Str) (tail : List Str)
    (hah : ∀ l ∈ ah, hasColonSpace l = true) (hb64 : ∀ l ∈ b64, isBodyLine l = true)
    (htail : ∀ t ∈ tail, ∀ c ∈ t, isSpace c = true) :
    ∀ x ∈ afterSig b ah b64 crc suffix tail, Dead x :=
  List.forall_mem_append.mpr ⟨List.forall_mem_map.mpr fun l hl => dead_header l b (hah l hl),
    List.forall_mem_cons.mpr ⟨dead_cr b,
      List.forall_mem_append.mpr ⟨List.forall_mem_map.mpr fun l hl => dead_body l b (hb64 l hl),
        List.forall_mem_cons.mpr ⟨dead_crc crc b,
          List.forall_mem_cons.mpr ⟨dead_end suffix, fun t ht => dead_blank t (htail t ht)⟩⟩⟩⟩⟩

/-- an armor block begins at the first of these lines, and that line starts with five dashes: the test
`longestClear` makes where a clear text would end -/
def armorAt : Lines → Bool
  | x :: rest => startsWith x dashes && armorMatches (x :: rest)
  | [] => false

theorem armorAt_drop (ls : Lines) (k : Nat) :
    (decide (k < ls.length) && startsWith (ls.getD k []) dashes && armorMatches (ls.drop k)) = armorAt (ls.drop k) := by
  by_cases hk : k < ls.length
  · rw [List.drop_eq_getElem_cons hk, List.getD_eq_getElem?_getD, List.getElem?_eq_getElem hk, decide_eq_true hk]
    rfl
  · rw [List.drop_eq_nil_of_le (Nat.le_of_not_lt hk), decide_eq_false hk]
    rfl

theorem longestClear_eq_findSome (ls : Lines) :
    longestClear ls = (List.range ls.length).reverse.findSome? fun e =>
      if armorAt (ls.drop (e + 1)) then some (joinNl (ls.take (e + 1))) else none := by
  simp only [longestClear, armorAt_drop]

theorem armorAt_dead (A : List Str) (hdead : ∀ x ∈ A, Dead x) (k : Nat) : armorAt (A.drop k) = false := by
  cases h : A.drop k with
  | nil => rfl
  | cons x rest => exact dead_no_match x rest (hdead x (List.mem_of_mem_drop (h ▸ List.mem_cons_self)))

/-- the clear text ends before the last place at which an armor block matches -/
theorem longestClear_append (a b : List Str) (ha : a ≠ []) (hb : armorAt b = true)
    (hlater : ∀ k, armorAt (b.drop (k + 1)) = false) : longestClear (a ++ b) = some (joinNl a) := by
  have hlen : 0 < a.length := List.length_pos_iff.mpr ha
  rw [longestClear_eq_findSome]
  apply Proofs.Assoc.findSome_rev_range _ _ (a.length - 1)
  · rw [List.length_append]; omega
  · rw [Nat.sub_add_cancel hlen, List.drop_left, List.take_left, if_pos hb]
  · intro e he _
    obtain ⟨k, rfl⟩ : ∃ k, e = a.length + k := ⟨e - a.length, by omega⟩
    rw [Nat.add_assoc, List.drop_length_add_append, if_neg (by rw [hlater k]; exact Bool.false_ne_true)]

theorem longestClear_none (ls : List Str) (h : ∀ k, armorAt (ls.drop (k + 1)) = false) : longestClear ls = none := by
  rw [longestClear_eq_findSome, List.findSome?_eq_none_iff]
  intro e _
  rw [if_neg (by rw [h e]; exact Bool.false_ne_true)]

theorem longestClear_eq (bodyR : List Str) (sigR : Str) (A : List Str) (hb : bodyR ≠ [])
    (hsig : startsWith sigR dashes = true) (harm : armorMatches (sigR :: A) = true) (hdead : ∀ x ∈ A, Dead x) :
    longestClear (bodyR ++ sigR :: A) = some (joinNl bodyR) :=
  longestClear_append bodyR (sigR :: A) hb (by rw [armorAt, hsig, harm]; rfl) (armorAt_dead A hdead)

theorem longestClear_dead (sigR : Str) (A : List Str) (hdead : ∀ x ∈ A, Dead x) : longestClear (sigR :: A) = none :=
  longestClear_none _ (armorAt_dead A hdead)

theorem matchAt_of_clearAt {ls : Lines} {t : Str} (h : clearAt ls = some t) : matchAt ls = some (.clear t) := by
  rw [matchAt_eq, h]

theorem clearAt_begin (l0 l1 : Str) (rest : List Str) (h0 : stripCr l0 = beginSigned) :
    clearAt (l0 :: l1 :: rest) =
      match withHashOf (l1 :: rest) with
      | some t => some t
      | none => longestClear (l1 :: rest) := by
  rw [clearAt, if_pos h0]
  rfl

theorem withHashOf_cons (h e : Str) (rest : List Str) (hne : rest ≠ []) :
    withHashOf (h :: e :: rest) = if hashCond h e then longestClear rest else none := by
  obtain ⟨m, more, rfl⟩ := List.exists_cons_of_ne_nil hne
  rfl

/-- the body itself begins like a `Hash:` header block (first line `Hash: x`, second line empty, more lines follow) -/
def form0Cond : List Str → Bool
  | h :: e :: _ :: _ => startsWith h "Hash: ".toList && !(h.drop 6).isEmpty && (h.drop 6).all isHashChar && e.isEmpty
  | _ => false

theorem hashCond_lines (x y z : Str) (zs : List Str) (b : Bool) (hx : plainLine x = true) (hy : plainLine y = true) :
    hashCond (x ++ crOf b) (y ++ crOf b) = form0Cond (x :: y :: z :: zs) := by
  rw [hashCond, stripCr_line x b ((plainLine_iff x).mp hx).2, stripCr_line y b ((plainLine_iff y).mp hy).2]
  rfl

theorem stripCr_beginSigned (b : Bool) : stripCr (beginSigned ++ crOf b) = beginSigned :=
  stripCr_line beginSigned b ((plainLine_iff _).mp beginSigned_facts.2).2

/-- what `wfWith` says of the armor block, and that only blank lines follow it -/
structure ArmorOK (ah b64 : List Str) (crc : Str) (tail : List Str) : Prop where
  hah : ∀ l ∈ ah, hasColonSpace l = true
  hb : b64 ≠ []
  hb64 : ∀ l ∈ b64, isBodyLine l = true
  hcl : crc.length = 4
  hca : ∀ c ∈ crc, isB64 c = true
  htail : ∀ t ∈ tail, ∀ c ∈ t, isSpace c = true

theorem clear_body (b : Bool) (body ah b64 : List Str) (crc suffix : Str) (tail : List Str) (hbody : body ≠ [])
    (ok : ArmorOK ah b64 crc tail) :
    longestClear (body.map (· ++ crOf b) ++ armorR b ah b64 crc suffix tail) = some (joinNl (body.map (· ++ crOf b))) :=
  longestClear_eq _ _ _ (by simpa using hbody) (startsWith_iff_prefix.mpr (dashes_sigBegin.trans (List.prefix_append _ _)))
    (armor_ok b ah b64 crc suffix tail ok.hah ok.hb ok.hb64 ok.hcl ok.hca)
    (afterSig_dead b ah b64 crc suffix tail ok.hah ok.hb64 ok.htail)

/-- **form 1**: BEGIN, one `Hash:` line, the empty line, the body, the armor block -/
theorem matchAt_form1 (b : Bool) (hs : Str) (body ah b64 : List Str) (crc suffix : Str) (tail : List Str)
    (hne : hs ≠ []) (hhash : ∀ c ∈ hs, isHashChar c = true) (hbody : body ≠ []) (ok : ArmorOK ah b64 crc tail) :
    matchAt ((beginSigned ++ crOf b) :: ("Hash: ".toList ++ hs ++ crOf b) :: crOf b ::
      (body.map (· ++ crOf b) ++ armorR b ah b64 crc suffix tail)) =
      some (.clear (joinNl (body.map (· ++ crOf b)))) := by
  have hcond : hashCond ("Hash: ".toList ++ hs ++ crOf b) (crOf b) = true := by
    have hcr : '\r' ∉ "Hash: ".toList ++ hs := by
      rw [List.mem_append]
      exact fun h => h.elim (by decide) (not_mem_of_all hhash rfl)
    have h4 : hs.isEmpty = false := List.isEmpty_eq_false_iff.mpr hne
    have h3 : (stripCr (crOf b)).isEmpty = true := by cases b <;> rfl
    rw [hashCond, stripCr_line _ b hcr, startsWith_self_append, List.drop_left' (l₁ := "Hash: ".toList) (l₂ := hs) (i := 6) rfl, h4, List.all_eq_true.mpr hhash, h3]
    rfl
  apply matchAt_of_clearAt
  rw [clearAt_begin _ _ _ (stripCr_beginSigned b), withHashOf_cons _ _ _ (by simp [armorR]), if_pos hcond,
    clear_body b body ah b64 crc suffix tail hbody ok]

/-- **form 0**: BEGIN, the body right away, the armor block -/
theorem matchAt_form0 (b : Bool) (body ah b64 : List Str) (crc suffix : Str) (tail : List Str)
    (hbody : body ≠ []) (hplain : ∀ l ∈ body, plainLine l = true)
    (hno : form0Cond body = false)
    (ok : ArmorOK ah b64 crc tail) :
    matchAt ((beginSigned ++ crOf b) :: (body.map (· ++ crOf b) ++ armorR b ah b64 crc suffix tail)) =
      some (.clear (joinNl (body.map (· ++ crOf b)))) := by
  have hcl := clear_body b body ah b64 crc suffix tail hbody ok
  have hdead := afterSig_dead b ah b64 crc suffix tail ok.hah ok.hb64 ok.htail
  obtain ⟨x, xs, rfl⟩ := List.exists_cons_of_ne_nil hbody
  rw [List.map_cons, List.cons_append] at hcl ⊢
  -- no `Hash:` header block is found: the second line is not empty, or the lines after it hold no armor block
  have hwh : withHashOf ((x ++ crOf b) :: (xs.map (· ++ crOf b) ++ armorR b ah b64 crc suffix tail)) = none := by
    rcases xs with _ | ⟨y, _ | ⟨z, zs⟩⟩
    · have he : (stripCr (sigBegin ++ crOf b)).isEmpty = false := by
        rw [stripCr_line sigBegin b sigBegin_noCr]
        exact List.isEmpty_eq_false_iff.mpr (dashes_sigBegin.ne_nil (List.cons_ne_nil _ _))
      rw [List.map_nil, List.nil_append, armorR_eq, withHashOf_cons _ _ _ (by simp [afterSig]), hashCond, he,
        Bool.and_false]
      rfl
    · rw [List.map_cons, List.map_nil, List.cons_append, List.nil_append, armorR_eq, withHashOf,
        longestClear_dead _ _ hdead, ite_self]
    · rw [List.map_cons, List.map_cons, List.cons_append, List.cons_append, withHashOf,
        hashCond_lines x y z zs b (hplain x (by simp)) (hplain y (by simp)), hno]
      rfl
  apply matchAt_of_clearAt
  rw [clearAt_begin _ _ _ (stripCr_beginSigned b), hwh, hcl]

theorem not_prefix_stripCr {l p : Str} (h : startsWith l dashes = false) (hp : dashes <+: p) : ¬ p <+: stripCr l :=
  fun hp' => by rw [startsWith_iff_prefix.mpr (hp.trans (hp'.trans (stripCr_prefix l)))] at h; cases h

theorem matchAt_not_dashes (l : Str) (rest : List Str) (h : startsWith l dashes = false) : matchAt (l :: rest) = none := by
  have hc : clearAt (l :: rest) = none := by
    cases rest with
    | nil => rfl
    | cons r rs => exact if_neg fun e : stripCr l = beginSigned => not_prefix_stripCr h dashes_beginSigned (e ▸ List.prefix_refl _)
  rw [matchAt_eq, hc,
    armorMatches_magic_none l rest (magicOf_none_of_not_prefix (not_prefix_stripCr h dashes_beginPgp))]
  rfl

theorem search_skip (P rest : List Str) (h : ∀ l ∈ P, startsWith l dashes = false) : search (P ++ rest) = search rest := by
  induction P with
  | nil => rfl
  | cons l ls ih =>
    rw [List.cons_append, search, matchAt_not_dashes l _ (h l (by simp))]
    exact ih fun x hx => h x (by simp [hx])

theorem search_here (ls : List Str) (f : Found) (h : matchAt ls = some f) (hne : ls ≠ []) : search ls = some f := by
  obtain ⟨l, rest, rfl⟩ := List.exists_cons_of_ne_nil hne
  rw [search, h]

theorem joinWith_cons2 (sep l y : Str) (ys : List Str) :
    joinWith sep (l :: y :: ys) = l ++ sep ++ joinWith sep (y :: ys) := rfl

/-- joining logical lines with `\r\n` is joining with `\n` the lines that carry their `\r`: every line but the last -/
theorem joinWith_crlf (b : Bool) (A : List Str) (x : Str) :
    joinWith (crOf b ++ ['\n']) (A ++ [x]) = join ['\n'] (A.map (· ++ crOf b) ++ [x]) := by
  induction A with
  | nil => rfl
  | cons a as ih =>
    obtain ⟨y, ys, hy⟩ : ∃ y ys, as ++ [x] = y :: ys := List.exists_cons_of_ne_nil (by simp)
    obtain ⟨z, zs, hz⟩ : ∃ z zs, as.map (· ++ crOf b) ++ [x] = z :: zs := List.exists_cons_of_ne_nil (by simp)
    rw [List.cons_append, hy, joinWith_cons2, ← hy, ih, List.map_cons, List.cons_append, hz, join1_cons2]
    simp only [List.append_assoc, List.cons_append, List.nil_append]

theorem joinNl_bodyR (b : Bool) (body : List Str) (hb : body ≠ []) :
    joinNl (body.map (· ++ crOf b)) = joinWith (crOf b ++ ['\n']) body ++ crOf b := by
  rcases List.eq_nil_or_concat body with h | ⟨A, x, rfl⟩
  · exact absurd h hb
  · rw [List.concat_eq_append, joinWith_crlf, joinNl_eq_join, List.map_append, List.map_singleton]
    exact (join_snoc_glue ['\n'] _ x (crOf b) []).symm

/-- white space that is empty or ends in a line feed: some blank lines, each terminated -/
theorem pre_lines (pre : Str) (hw : ∀ c ∈ pre, isSpace c = true) (hl : pre = [] ∨ pre.getLast? = some '\n') :
    ∃ P : List Str, (∀ l ∈ P, (∀ c ∈ l, isSpace c = true) ∧ '\n' ∉ l) ∧
      ∀ Y : List Str, Y ≠ [] → pre ++ join ['\n'] Y = join ['\n'] (P ++ Y) := by
  rcases hl with rfl | hl
  · exact ⟨[], by simp, fun Y _ => by simp⟩
  · obtain ⟨q, hq⟩ : ∃ q, pre = q ++ ['\n'] := by
      have hne : pre ≠ [] := by intro e; rw [e] at hl; cases hl
      refine ⟨pre.dropLast, ?_⟩
      have := dropLast_append_lastD pre '\n' hne
      rw [hl] at this
      simpa using this.symm
    refine ⟨splitChar '\n' q, ?_, ?_⟩
    · intro l hl'
      refine ⟨fun c hc => hw c ?_, splitChar_no_sep '\n' q l hl'⟩
      rw [hq]
      exact List.mem_append_left _ (mem_of_mem_splitChar '\n' q l hl' c hc)
    · intro Y hY
      rw [join1_append _ _ _ (splitChar_ne_nil '\n' q) hY, join_splitChar, hq]
      simp

/-- a text that is, between white space, the join of the lines `X ++ [x]`, where the white space in front is empty or
ends in a line feed: its lines are blank lines, the lines `X`, the line `x` with white space after it, blank lines -/
theorem lines_of_text (t : Str) (X : List Str) (x : Str) (hnl : ∀ l ∈ X, '\n' ∉ l) (hx : '\n' ∉ x)
    (hcore : strip t = join ['\n'] (X ++ [x]))
    (hpre : t.takeWhile isSpace = [] ∨ (t.takeWhile isSpace).getLast? = some '\n') :
    ∃ P s T, (∀ l ∈ P, ∀ c ∈ l, isSpace c = true) ∧ (∀ l ∈ T, ∀ c ∈ l, isSpace c = true) ∧
      splitChar '\n' t = P ++ (X ++ (x ++ s) :: T) := by
  obtain ⟨pre, hpreS, h1⟩ := lstrip_decomp t
  obtain ⟨post, hpostS, h2⟩ := rstrip_decomp (lstrip t)
  have hTW : t.takeWhile isSpace = pre := by
    conv => lhs; rw [h1]
    exact takeWhile_space_prefix pre _ hpreS (lstrip_head t)
  obtain ⟨P, hP, hPjoin⟩ := pre_lines pre hpreS (hTW ▸ hpre)
  obtain ⟨s, T, hsT⟩ := List.exists_cons_of_ne_nil (splitChar_ne_nil '\n' post)
  have hT : ∀ l ∈ s :: T, (∀ c ∈ l, isSpace c = true) ∧ '\n' ∉ l := fun l hl =>
    ⟨fun c hc => hpostS c (mem_of_mem_splitChar '\n' post l (hsT ▸ hl) c hc), splitChar_no_sep '\n' post l (hsT ▸ hl)⟩
  refine ⟨P, s, T, fun l hl => (hP l hl).1, fun l hl => (hT l (List.mem_cons_of_mem _ hl)).1, ?_⟩
  have ht : t = join ['\n'] (P ++ (X ++ (x ++ s) :: T)) := by
    rw [← hPjoin _ (by simp), ← join_snoc_glue, ← hsT, join_splitChar, ← hcore]
    exact h1.trans (congrArg _ h2)
  conv => lhs; rw [ht]
  refine splitChar_join _ _ (by simp) (List.forall_mem_append.mpr ⟨fun l hl => (hP l hl).2,
    List.forall_mem_append.mpr ⟨hnl, List.forall_mem_cons.mpr ⟨?_, fun l hl => (hT l (List.mem_cons_of_mem _ hl)).2⟩⟩⟩)
  rw [List.mem_append]
  exact fun h => h.elim hx (hT s List.mem_cons_self).2

theorem strip_enveloped (s w : Str) (h1 : startsWith s beginSigned = true) (h2 : endsWith s endSignature = true)
    (hw : ∀ c ∈ w, isSpace c = true) : strip (s ++ w) = s := by
  refine strip_core [] s w (fun _ h => nomatch h) hw ?_ ?_
  · obtain ⟨r, e⟩ := dashes_beginSigned.trans (startsWith_iff_prefix.mp h1)
    rw [← e]; rfl
  · rw [endsWith_decomp s _ h2, lastP_append_ne _ _ _ (lastP_true_ne_nil endSignature_facts.2.2)]
    exact endSignature_facts.2.2

theorem isSigned_of_strip (t : Str) (h1 : startsWith (strip t) beginSigned = true)
    (h2 : endsWith (strip t) endSignature = true) : isSigned t = true := by
  have hne : strip t ≠ [] :=
    ((dashes_beginSigned.trans (startsWith_iff_prefix.mp h1)).ne_nil (List.cons_ne_nil _ _))
  have ht : t ≠ [] := fun e => hne (by rw [e]; rfl)
  simp [isSigned, h1, h2, hne, ht]

theorem nl_eq (m : Msg) : nl m = crOf m.crlf ++ ['\n'] := by
  unfold nl crOf; cases m.crlf <;> rfl

theorem crlf_isSpace (b : Bool) : ∀ c ∈ crOf b ++ ['\n'], isSpace c = true := by
  cases b <;> decide

/-- the header block of the message forms the theorem covers -/
def hdrOf (m : Msg) : List Str :=
  match m.form, m.hashes with
  | 1, some h => ["Hash: ".toList ++ h, []]
  | _, _ => []

theorem hdrOf_form0 (m : Msg) (h0 : m.form = 0) : hdrOf m = [] := by
  rw [hdrOf, h0]; rfl

theorem hdrOf_form1 (m : Msg) (h1 : m.form = 1) (h : Str) (hh : m.hashes = some h) :
    hdrOf m = ["Hash: ".toList ++ h, []] := by
  rw [hdrOf, h1, hh]; rfl

/-- every logical line but the END line -/
def allButEnd (m : Msg) : List Str :=
  beginSigned :: (hdrOf m ++ (m.body ++ sigBegin :: (m.armorHeaders ++ [] :: (m.b64 ++ ['=' :: m.crc]))))

/-- `wfWith [0, 1] m`, clause by clause -/
structure WF01 (m : Msg) : Prop where
  form : m.form = 0 ∨ (m.form = 1 ∧ ∃ h, m.hashes = some h ∧ h ≠ [] ∧ ∀ c ∈ h, isHashChar c = true)
  bodyNe : m.body ≠ []
  bodyPlain : ∀ l ∈ m.body, plainLine l = true
  form0 : m.form = 0 → form0Cond m.body = false
  ahOk : ∀ l ∈ m.armorHeaders, plainLine l = true ∧ hasColonSpace l = true
  b64Ne : m.b64 ≠ []
  b64Ok : ∀ l ∈ m.b64, isBodyLine l = true
  crcLen : m.crc.length = 4
  crcOk : ∀ c ∈ m.crc, isB64 c = true
  pre : m.text.takeWhile isSpace = [] ∨ (m.text.takeWhile isSpace).getLast? = some '\n'
  text : strip m.text = strip (render m)

theorem wf01_of (m : Msg) (h : wfWith [0, 1] m = true) : WF01 m := by
  simp only [wfWith, List.contains_cons, List.contains_nil, Bool.or_false, Bool.and_eq_true, Bool.or_eq_true,
    beq_iff_eq, Bool.not_eq_true', List.all_eq_true, List.isEmpty_eq_false_iff, bne_iff_ne, ne_eq, List.isEmpty_iff,
    and_assoc] at h
  obtain ⟨hform, hhs, hhash, hbne, hbody, hf0, hah, hb64ne, hb64, hcrcl, hcrc, hpre, htext⟩ := h
  have hhashes : m.form = 1 → ∃ h, m.hashes = some h ∧ h ≠ [] ∧ ∀ c ∈ h, isHashChar c = true := fun h1 => by
    obtain ⟨hv, hm⟩ := Option.isSome_iff_exists.mp (hhs.resolve_left (by omega))
    rw [hm] at hhash
    simp only [Bool.and_eq_true, Bool.not_eq_true', List.isEmpty_eq_false_iff, List.all_eq_true] at hhash
    exact ⟨hv, hm, hhash⟩
  exact {
    form := hform.imp_right fun h1 => ⟨h1, hhashes h1⟩
    bodyNe := hbne
    bodyPlain := fun l hl => (hbody l hl).1
    form0 := fun h0 => hf0.resolve_left fun hf => hf h0
    ahOk := hah, b64Ne := hb64ne, b64Ok := hb64, crcLen := hcrcl, crcOk := hcrc, pre := hpre, text := htext }

theorem renderLines_eq (m : Msg) (w : WF01 m) : renderLines m = allButEnd m ++ [endSignature] := by
  have : renderLines m = [beginSigned] ++ hdrOf m ++ m.body ++ [sigBegin] ++ m.armorHeaders ++ [[]] ++ m.b64 ++
      ['=' :: m.crc] ++ [endSignature] := by
    unfold renderLines hdrOf
    rcases w.form with h0 | ⟨h1, hv, hh, _, _⟩
    · rw [h0]; cases m.hashes <;> rfl
    · rw [h1, hh]; rfl
  rw [this, allButEnd]
  simp only [List.append_assoc, List.cons_append, List.nil_append]

theorem allButEnd_noNl (m : Msg) (w : WF01 m) : ∀ l ∈ allButEnd m, '\n' ∉ l := by
  have hdr : ∀ l ∈ hdrOf m, '\n' ∉ l := by
    rcases w.form with h0 | ⟨h1, hv, hh, _, hhc⟩
    · rw [hdrOf_form0 m h0]; exact List.forall_mem_nil _
    · rw [hdrOf_form1 m h1 hv hh]
      simp only [List.forall_mem_cons, List.mem_append, not_or]
      exact ⟨⟨by decide, not_mem_of_all hhc rfl⟩, List.not_mem_nil, List.forall_mem_nil _⟩
  simp only [allButEnd, List.forall_mem_cons, List.forall_mem_append]
  exact ⟨((plainLine_iff _).mp beginSigned_facts.2).1, hdr, fun l hl => ((plainLine_iff l).mp (w.bodyPlain l hl)).1,
    ((plainLine_iff _).mp sigBegin_facts.2).1, fun l hl => ((plainLine_iff l).mp (w.ahOk l hl).1).1, List.not_mem_nil,
    fun l hl => bodyLine_not_mem l (w.b64Ok l hl) rfl,
    fun h => (List.mem_cons.mp h).elim (by decide) (not_mem_of_all w.crcOk rfl), List.forall_mem_nil _⟩

theorem matchAt_message (m : Msg) (w : WF01 m) (s : Str) (T : List Str) (hT : ∀ t ∈ T, ∀ c ∈ t, isSpace c = true) :
    matchAt ((allButEnd m).map (· ++ crOf m.crlf) ++ (endSignature ++ s) :: T) =
      some (.clear (joinNl (m.body.map (· ++ crOf m.crlf)))) := by
  have ok : ArmorOK m.armorHeaders m.b64 m.crc T :=
    { hah := fun l hl => (w.ahOk l hl).2, hb := w.b64Ne, hb64 := w.b64Ok, hcl := w.crcLen, hca := w.crcOk, htail := hT }
  have hmsg : (allButEnd m).map (· ++ crOf m.crlf) ++ (endSignature ++ s) :: T =
      (beginSigned ++ crOf m.crlf) :: ((hdrOf m).map (· ++ crOf m.crlf) ++
        (m.body.map (· ++ crOf m.crlf) ++ armorR m.crlf m.armorHeaders m.b64 m.crc s T)) := by
    simp only [allButEnd, armorR, List.map_append, List.map_cons, List.map_nil, List.append_assoc, List.cons_append,
      List.nil_append]
  rw [hmsg]
  rcases w.form with h0 | ⟨h1, hv, hh, hne, hhc⟩
  · rw [hdrOf_form0 m h0]
    exact matchAt_form0 m.crlf m.body m.armorHeaders m.b64 m.crc s T w.bodyNe w.bodyPlain (w.form0 h0) ok
  · rw [hdrOf_form1 m h1 hv hh]
    exact matchAt_form1 m.crlf hv m.body m.armorHeaders m.b64 m.crc s T hne hhc w.bodyNe ok

/-- **C16, the well-formed clause** (hypothesis of K6: no header block, or exactly one `Hash:` line): for every
well-formed clear-signed message — a non-empty body of lines without line breaks or five leading dashes (not itself opening like a `Hash:`
block), armor headers `Name: value`, base64 lines and a four-character checksum, LF or CRLF, with or without a final
line ending, preceded by blank lines and followed by any white space — the model of
`remove_signature` returns exactly the signed body (with the final carriage return for CRLF input) -/
theorem wellformed_body (m : Msg) (hw : wfWith [0, 1] m = true) : removeSignature m.text = expected m := by
  have w := wf01_of m hw
  have hfirst : startsWith (join ['\n'] ((allButEnd m).map (· ++ crOf m.crlf) ++ [endSignature])) beginSigned = true :=
    startsWith_iff_prefix.mpr ((List.prefix_append _ (crOf m.crlf)).trans
      (startsWith_iff_prefix.mp (startsWith_join ['\n'] _ _)))
  have hlast := endsWith_join ['\n'] ((allButEnd m).map (· ++ crOf m.crlf)) endSignature
  have hstrip : strip m.text = join ['\n'] ((allButEnd m).map (· ++ crOf m.crlf) ++ [endSignature]) := by
    rw [w.text, render, nl_eq, renderLines_eq m w, joinWith_crlf]
    refine strip_enveloped _ _ hfirst hlast fun c hc => ?_
    split at hc
    · exact crlf_isSpace m.crlf c hc
    · cases hc
  obtain ⟨P, s, T, hP, hT, hlines⟩ := lines_of_text m.text _ endSignature
    (List.forall_mem_map.mpr fun l hl hm => (List.mem_append.mp hm).elim (allButEnd_noNl m w l hl)
      (by cases m.crlf <;> decide))
    ((plainLine_iff _).mp endSignature_facts.2.1).1 hstrip w.pre
  have hsearch : search (splitChar '\n' m.text) = some (.clear (joinNl (m.body.map (· ++ crOf m.crlf)))) := by
    rw [hlines, search_skip P _ fun l hl => blank_not_dashes l (hP l hl)]
    exact search_here _ _ (matchAt_message m w s T hT) (by simp [allButEnd])
  rw [removeSignature, isSigned_of_strip _ (hstrip ▸ hfirst) (hstrip ▸ hlast), hsearch, joinNl_bodyR _ _ w.bodyNe,
    expected, nl_eq]
  cases m.crlf <;> rfl

/-- **C16, well-formed messages, as the check evaluates it** (`holdsOnWK6`: the property with the hypothesis
of finding K6 added) -/
theorem soundWK6 (m : Msg) : holdsOnWK6 m (Props.C16.model m.text) = true := by
  unfold holdsOnWK6
  cases hw : wfWith [0, 1] m with
  | false => rfl
  | true =>
    simp only [Bool.not_true, Bool.false_or, Props.C16.model, wellformed_body m hw, beq_self_eq_true]

end Props.C16W
