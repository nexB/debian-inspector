/-
C13 — the fixpoint, document level: the rendering of the object of a document of the grammar is the text of its
canonical document, itself a document of the grammar, so the C09 parse lemmas (`fromText_spells`) apply to it and close
the cycle; `from_dict(to_dict(p))`; the rendering has one block of lines per paragraph.
-/
import DebInspector.Thm.C13P

namespace Props.C13D
open Py Model.Deb822 Model.Debcon Model.Copyright Props.Dep5 Props.C09 Props.C09G Props.C13F Props.C13P Proofs.Splitlines

/-- the clauses of `wf d` -/
structure WfDoc (d : Doc) : Prop where
  ne : d.paras ≠ []
  paras : ∀ p ∈ d.paras, paraOk p = true
  head : (match d.paras.head? with | some p => paraKind p == some Kind.header | none => false) = true
  tail : ∀ p ∈ d.paras.tail, paraKind p ≠ some Kind.header
  len : d.seps.length = d.paras.length
  seps : ∀ n ∈ d.seps, n ≥ 1
  text : d.text = render d

theorem wf_iff (d : Doc) : wf d = true ↔ WfDoc d := by
  simp only [wf, Bool.and_eq_true, List.all_eq_true, Bool.not_eq_true', List.isEmpty_eq_false_iff, beq_iff_eq,
    decide_eq_true_eq, bne_iff_ne, ne_eq]
  exact ⟨fun ⟨⟨⟨⟨⟨⟨hne, hparas⟩, hhead⟩, htail⟩, hlen⟩, hseps⟩, htext⟩ => ⟨hne, hparas, hhead, htail, hlen, hseps, htext⟩,
    fun h => ⟨⟨⟨⟨⟨⟨h.ne, h.paras⟩, h.head⟩, h.tail⟩, h.len⟩, h.seps⟩, h.text⟩⟩

theorem fromText_spells (d : Doc) (hw : wf d = true) :
    ∃ ps, fromText d.text = .ok ps ∧ All2 SpellsP d.paras ps :=
  fromFieldsGroups_spells d.paras ((wf_iff d).mp hw).paras (parse d.text) (Props.C09D.parse_spells d hw)

/-! ### the canonical document and its rendering -/

def kindOf (p : Dep5.Para) : Kind := (paraKind p).getD .catchall

def canonParas (paras : List Dep5.Para) : List Dep5.Para := paras.map fun p => canonPara (kindOf p) p

/-- the separators of a rendering: one empty line between paragraphs, none after the last -/
def ones (n : Nat) : List Nat := List.replicate n 1

/-- the document as `dumps` writes it -/
def canonDoc (d : Doc) : Doc :=
  ⟨canonParas d.paras, ones d.paras.length, renderAux (canonParas d.paras) (ones d.paras.length)⟩

def noMultiExtraDoc (d : Doc) : Prop := ∀ p ∈ d.paras, noMultiExtra p

theorem ones_succ (n : Nat) : ones (n + 1) = 1 :: ones n := rfl

theorem kindOf_eq (p : Dep5.Para) (K : Kind) (hK : paraKind p = some K) : kindOf p = K := by
  simp [kindOf, hK]

theorem renderAux_ones (p : Dep5.Para) (rest : List Dep5.Para) :
    renderAux (p :: rest) (ones (rest.length + 1)) = joinBlank ((p :: rest).map renderPara) ++ ['\n'] := by
  induction rest generalizing p with
  | nil => rfl
  | cons q rest ih =>
    rw [ones_succ, List.length_cons]
    simp only [renderAux, List.headD_cons, List.tail_cons, List.map_cons, joinBlank]
    rw [ih q]
    simp [List.replicate]

theorem docDumps_eq (paras : List Dep5.Para) (ps : List Model.Copyright.Para) (hall : All2 SpellsP paras ps)
    (hx : ∀ p ∈ paras, noMultiExtra p) (hne : paras ≠ []) :
    docDumps ps = .ok (renderAux (canonParas paras) (ones paras.length)) := by
  have hmap : mapExcept paraDumps ps = .ok ((canonParas paras).map renderPara) := by
    clear hne
    induction hall with
    | nil => rfl
    | @cons p q ps0 qs0 hpq _ ih =>
      obtain ⟨hpo, K, hK, hKne, hqk, hqf, hqe⟩ := hpq
      rw [Proofs.Assoc.mapExcept_cons_ok (paraDumps_eq p K hpo hK hKne (hx p (by simp)) q hqk hqf hqe),
        ih (fun p' hp' => hx p' (by simp [hp']))]
      simp only [canonParas, List.map_cons, kindOf_eq p K hK]
      rfl
  unfold docDumps
  rw [hmap]
  cases hp : paras with
  | nil => exact absurd hp hne
  | cons p rest =>
    simp only [canonParas, List.map_cons, List.length_cons]
    have := renderAux_ones (canonPara (kindOf p) p) (rest.map fun p => canonPara (kindOf p) p)
    rw [List.length_map] at this
    rw [this]
    rfl

theorem canon_kindOf (p : Dep5.Para) (hp : paraOk p = true) :
    paraOk (canonPara (kindOf p) p) = true ∧ paraKind (canonPara (kindOf p) p) = paraKind p := by
  obtain ⟨K, hK, hKne⟩ := paraKind_some p hp
  rw [kindOf_eq p K hK, paraKind_canon p K hp hK, hK]
  exact ⟨paraOk_canon p K hp hK hKne, rfl⟩

theorem wf_canon (d : Doc) (hw : wf d = true) : wf (canonDoc d) = true := by
  have hd := (wf_iff d).mp hw
  have hkind : ∀ p ∈ d.paras, paraKind (canonPara (kindOf p) p) = paraKind p := fun p hp => (canon_kindOf p (hd.paras p hp)).2
  refine (wf_iff _).mpr { ne := ?_, paras := ?_, head := ?_, tail := ?_, len := ?_, seps := ?_, text := rfl }
  · exact fun e => hd.ne (List.map_eq_nil_iff.mp e)
  · exact List.forall_mem_map.mpr fun p hp => (canon_kindOf p (hd.paras p hp)).1
  · have hhead := hd.head
    simp only [canonDoc, canonParas, List.head?_map]
    cases hh : d.paras.head? with
    | none => rw [hh] at hhead; cases hhead
    | some p =>
      rw [hh] at hhead
      show (paraKind (canonPara (kindOf p) p) == some Kind.header) = true
      rw [hkind p (List.mem_of_mem_head? hh)]
      exact hhead
  · simp only [canonDoc, canonParas, ← List.map_tail]
    exact List.forall_mem_map.mpr fun p hp => by rw [hkind p (List.mem_of_mem_tail hp)]; exact hd.tail p hp
  · exact List.length_replicate.trans (List.length_map _).symm
  · exact fun n hn => Nat.le_of_eq (List.eq_of_mem_replicate hn).symm

theorem spells_of_canon (p : Dep5.Para) (hp : paraOk p = true) (q : Model.Copyright.Para)
    (h : SpellsP (canonPara (kindOf p) p) q) : SpellsP p q := by
  obtain ⟨K, hK, hKne⟩ := paraKind_some p hp
  rw [kindOf_eq p K hK] at h
  obtain ⟨_, K', hK', _, hqk, hqf, hqe⟩ := h
  have : K' = K := by
    have := paraKind_canon p K hp hK
    rw [this] at hK'; cases hK'; rfl
  subst this
  obtain ⟨e1, e2⟩ := paraOf_canon p K' hp hK hKne
  exact ⟨hp, K', hK, hKne, hqk, by rw [hqf, e1], by rw [hqe, e2]⟩

theorem kd_unique (p : Dep5.Para) (hx : noMultiExtra p) (q q' : Model.Copyright.Para) (h : SpellsP p q) (h' : SpellsP p q') :
    Props.C13.kd q = Props.C13.kd q' := by
  obtain ⟨hp, K, hK, hKne, hqk, hqf, hqe⟩ := h
  obtain ⟨_, K', hK', _, hqk', hqf', hqe'⟩ := h'
  have : K' = K := by rw [hK] at hK'; cases hK'; rfl
  subst this
  unfold Props.C13.kd
  rw [hqk, hqk', toDict_eq p K' hp hK hx q hqf hqe, toDict_eq p K' hp hK hx q' hqf' hqe']

theorem kd_all (paras : List Dep5.Para) (ps qs : List Model.Copyright.Para) (hx : ∀ p ∈ paras, noMultiExtra p)
    (h1 : All2 SpellsP paras ps) (h2 : All2 SpellsP paras qs) : qs.map Props.C13.kd = ps.map Props.C13.kd := by
  induction h1 generalizing qs with
  | nil => cases h2; rfl
  | @cons p q ps0 qs0 hpq _ ih =>
    cases h2 with
    | cons hpq' hrest =>
      simp only [List.map_cons]
      rw [kd_unique p (hx p (by simp)) q _ hpq hpq', ih _ (fun p' hp' => hx p' (by simp [hp'])) hrest]

/-- **render → parse → render**: the object of a document is rendered as the text of its canonical document; parsing
that gives paragraph objects that spell the same paragraphs, and rendering those gives the same text again -/
theorem cycle (d : Doc) (hw : wf d = true) (hx : noMultiExtraDoc d) :
    ∃ ps qs, fromText d.text = .ok ps ∧ docDumps ps = .ok (canonDoc d).text ∧
      fromText (canonDoc d).text = .ok qs ∧ docDumps qs = .ok (canonDoc d).text ∧
      All2 SpellsP d.paras ps ∧ All2 SpellsP d.paras qs := by
  have hd := (wf_iff d).mp hw
  obtain ⟨ps, hps, hall⟩ := fromText_spells d hw
  obtain ⟨qs, hqs, hallq⟩ := fromText_spells (canonDoc d) (wf_canon d hw)
  have hallq' : All2 SpellsP d.paras qs :=
    (hallq.of_map fun p => canonPara (kindOf p) p).imp_mem fun p hp q h => spells_of_canon p (hd.paras p hp) q h
  exact ⟨ps, qs, hps, docDumps_eq d.paras ps hall hx hd.ne, hqs, docDumps_eq d.paras qs hallq' hx hd.ne, hall, hallq'⟩

/-! ### one block of lines per paragraph -/

def blockStep (l : Str) (acc : List (List Str)) : List (List Str) :=
  if isBlank l then [] :: acc else
    match acc with
    | b :: rest => (l :: b) :: rest
    | [] => [[l]]

theorem blocks_eq (t : Str) : Props.C13.blocks t = (splitLinesAscii t).foldr blockStep [[]] := rfl

theorem foldr_block (b : List Str) (hb : ∀ l ∈ b, isBlank l = false) (h : List Str) (r : List (List Str)) :
    b.foldr blockStep (h :: r) = (b ++ h) :: r := by
  induction b with
  | nil => rfl
  | cons l ls ih =>
    simp only [List.foldr_cons, ih (fun x hx => hb x (by simp [hx])), blockStep, hb l (by simp), Bool.false_eq_true,
      if_false, List.cons_append]

/-- the lines of a document whose paragraphs are separated by one empty line -/
def sepLines : List (List Str) → List Str
  | [] => []
  | [b] => b
  | b :: c :: rest => b ++ [] :: sepLines (c :: rest)

theorem blocks_sepLines (L : List (List Str)) (hne : L ≠ []) (hL : ∀ b ∈ L, ∀ l ∈ b, isBlank l = false) :
    (sepLines L).foldr blockStep [[]] = L := by
  induction L with
  | nil => exact absurd rfl hne
  | cons b rest ih =>
    cases rest with
    | nil =>
      simp only [sepLines]
      rw [foldr_block b (hL b (by simp))]
      simp
    | cons c rest' =>
      have ih' := ih (by simp) (fun x hx => hL x (by simp [hx]))
      simp only [sepLines, List.foldr_append, List.foldr_cons]
      rw [ih']
      have : blockStep [] (c :: rest') = [] :: c :: rest' := by simp [blockStep, isBlank]
      rw [this, foldr_block b (hL b (by simp))]
      simp

theorem flatMap_lines6 (p : Dep5.Para) :
    p.flatMap (fun a => Props.C06.fieldLines (Props.C09D.toField a)) = p.flatMap fieldLines :=
  Proofs.Words.flatMap_congr fun f _ => (Props.C09D.fieldLines_eq6 f).symm

theorem docLines_ones (paras : List Dep5.Para) :
    Props.C06.docLines (Props.C09D.toParas paras (ones paras.length)) =
      sepLines (paras.map fun p => p.flatMap fieldLines) := by
  induction paras with
  | nil => rfl
  | cons p rest ih =>
    cases rest with
    | nil =>
      simp only [Props.C09D.toParas, Props.C06.docLines, Props.C06.paraLines, List.map_cons, List.map_nil, sepLines,
        List.flatMap_map]
      exact flatMap_lines6 p
    | cons q rest' =>
      rw [List.length_cons, ones_succ]
      simp only [Props.C09D.toParas, List.headD_cons, List.tail_cons, Props.C06.docLines, List.map_cons, sepLines]
      have := ih
      simp only [Props.C09D.toParas, List.map_cons] at this
      rw [this]
      simp [Props.C06.paraLines, List.flatMap_map, flatMap_lines6]

theorem blocks_render (P : List Dep5.Para) (hne : P ≠ []) (hP : ∀ p ∈ P, paraOk p = true) :
    Props.C13.blocks (renderAux P (ones P.length)) = P.map fun p => p.flatMap fieldLines := by
  -- the rendering is that of the deb822 grammar of C06 (`render_eq6`), whose lines `lines_render` gives
  rw [blocks_eq, Props.C09D.render_eq6 P (ones P.length) (fun n hn => Nat.le_of_eq (List.eq_of_mem_replicate hn).symm) List.length_replicate,
    Props.C06.lines_render _ true (fun q hq => (Props.C09D.toParas_facts _ _ hP q hq).2), docLines_ones]
  apply blocks_sepLines
  · exact fun e => hne (List.map_eq_nil_iff.mp e)
  · intro b hb l hl
    obtain ⟨p, hp, rfl⟩ := List.mem_map.mp hb
    obtain ⟨f, hf, hlf⟩ := List.mem_flatMap.mp hl
    obtain ⟨h1, h2⟩ := fieldLines_facts f (paraOk_fields (hP p hp) f hf) l hlf
    exact isBlank_of_last h2 h1

theorem noBlank_render (P : List Dep5.Para) (hne : P ≠ []) (hP : ∀ p ∈ P, paraOk p = true) :
    Props.C13.noBlankInside (renderAux P (ones P.length)) P.length = true := by
  have hall : (P.map fun p => p.flatMap fieldLines).filter (fun b => !b.isEmpty) = P.map fun p => p.flatMap fieldLines := by
    rw [List.filter_eq_self]
    intro b hb
    obtain ⟨p, hp, rfl⟩ := List.mem_map.mp hb
    obtain ⟨f, fs, rfl⟩ := List.exists_cons_of_ne_nil (paraOk_ne (hP p hp))
    simp [List.flatMap_cons, fieldLines]
  have hn0 : (P.length == 0) = false := by
    cases P with
    | nil => exact absurd rfl hne
    | cons _ _ => rfl
  simp [Props.C13.noBlankInside, blocks_render P hne hP, hall, hn0]

theorem noBlank_canon (d : Doc) (hw : wf d = true) :
    Props.C13.noBlankInside (canonDoc d).text d.paras.length = true := by
  have hc := (wf_iff _).mp (wf_canon d hw)
  have := noBlank_render (canonParas d.paras) hc.ne hc.paras
  rwa [canonParas, List.length_map] at this

/-! ### `from_dict(to_dict(p))` -/

theorem lookup_none_of_not_mem' {β} (l : List (Str × β)) (k : Str) (h : k ∉ l.map (·.1)) : l.lookup k = none :=
  Proofs.Assoc.lookup_eq_none l k h

/-- the items `from_dict` keeps of typed entries `(n, v n)`: those with a value -/
def readBack (tf : List (Str × String)) (v : Str → Str) : List (Str × Str) :=
  (tf.filter fun nc => !(v nc.1).isEmpty).map fun nc => (nc.1, v nc.1)

theorem filterMap_dictItem_typed (tf : List (Str × String)) (v : Str → Str) (htf : ∀ nc ∈ tf, replaceChar '-' '_' nc.1 = nc.1) :
    (tf.map fun nc => (nc.1, XV.s (v nc.1))).filterMap Props.C13.dictItem = readBack tf v := by
  induction tf with
  | nil => rfl
  | cons nc rest ih =>
    have ih' := ih fun x hx => htf x (List.mem_cons_of_mem _ hx)
    simp only [readBack, List.map_cons, List.filterMap_cons, List.filter_cons, Props.C13.dictItem, htf nc (List.mem_cons_self ..)]
      at ih' ⊢
    cases (v nc.1).isEmpty <;> simp [ih']

theorem filterMap_dictItem_extra (ex : List (Str × Str))
    (hex : ∀ kv ∈ ex, replaceChar '-' '_' kv.1 = kv.1 ∧ kv.2.isEmpty = false) :
    (ex.map fun kv => (kv.1, XV.s kv.2)).filterMap Props.C13.dictItem = ex := by
  rw [List.filterMap_map, Proofs.Assoc.filterMap_congr ex _ some, List.filterMap_some]
  intro kv hkv
  simp only [Function.comp, Props.C13.dictItem, (hex kv hkv).1, (hex kv hkv).2, Bool.false_eq_true, if_false]

theorem readBack_keys (tf : List (Str × String)) (v : Str → Str) : ((readBack tf v).map (·.1)).Sublist (tf.map (·.1)) := by
  rw [readBack, List.map_map]
  exact List.Sublist.map _ List.filter_sublist

theorem lookup_readBack (tf : List (Str × String)) (v : Str → Str) (hnd : (tf.map (·.1)).Nodup) (nc : Str × String) (hnc : nc ∈ tf) :
    (readBack tf v).reverse.lookup nc.1 = if (v nc.1).isEmpty then none else some (v nc.1) := by
  split
  · next he =>
    apply Proofs.Assoc.lookup_eq_none
    intro hm
    rw [List.map_reverse, List.mem_reverse, readBack, List.map_map] at hm
    obtain ⟨nc', hnc', hk⟩ := List.mem_map.mp hm
    have := (List.mem_filter.mp hnc').2
    rw [show nc'.1 = nc.1 from hk, he] at this
    cases this
  · next he =>
    have hmem : (nc.1, v nc.1) ∈ (readBack tf v).reverse :=
      List.mem_reverse.mpr (List.mem_map.mpr ⟨nc, List.mem_filter.mpr ⟨hnc, by simpa using he⟩, rfl⟩)
    have hnd' : ((readBack tf v).reverse.map (·.1)).Nodup := by
      rw [List.map_reverse, List.Nodup, List.pairwise_reverse]
      exact (hnd.sublist (readBack_keys tf v)).imp Ne.symm
    exact Proofs.Assoc.lookup_of_mem _ hnd' _ hmem

/-- what `from_dict` reads back from a dictionary that lists the typed names of the class first (an empty value stands
for an absent field) and then extra items under names of their own -/
theorem fromDict_parts (K : Kind) (v : Str → Str) (ex : List (Str × Str))
    (hnd : ((typedFields K).map (·.1)).Nodup) (htf : ∀ nc ∈ typedFields K, replaceChar '-' '_' nc.1 = nc.1)
    (hex : ∀ kv ∈ ex, replaceChar '-' '_' kv.1 = kv.1 ∧ kv.2.isEmpty = false ∧ kv.1 ∉ (typedFields K).map (·.1))
    (hexnd : (ex.map (·.1)).Nodup) :
    Props.C13.fromDict K (((typedFields K).map fun nc => (nc.1, XV.s (v nc.1))) ++ ex.map fun kv => (kv.1, XV.s kv.2)) =
      { kind := K,
        fields := (typedFields K).map fun nc => (nc.1, fromValue nc.2 (if (v nc.1).isEmpty then none else some (v nc.1))),
        extra := ex.map fun kv => (kv.1, XV.s kv.2),
        lines := [] } := by
  have hAin : ∀ kv ∈ readBack (typedFields K) v, ((typedFields K).map (·.1)).contains kv.1 = true := fun kv hkv =>
    List.contains_iff_mem.mpr ((readBack_keys _ v).subset (List.mem_map.mpr ⟨kv, hkv, rfl⟩))
  have hBout : ∀ kv ∈ ex, ((typedFields K).map (·.1)).contains kv.1 = false := fun kv hkv => by
    cases hc : ((typedFields K).map (·.1)).contains kv.1 with
    | false => rfl
    | true => exact absurd (List.contains_iff_mem.mp hc) (hex kv hkv).2.2
  have hknown : (readBack (typedFields K) v ++ ex).filter (fun kv => ((typedFields K).map (·.1)).contains kv.1) =
      readBack (typedFields K) v := by
    rw [List.filter_append, List.filter_eq_self.mpr hAin,
      List.filter_eq_nil_iff.mpr (fun kv hkv => by rw [hBout kv hkv]; exact Bool.false_ne_true), List.append_nil]
  have hextra : (readBack (typedFields K) v ++ ex).filter (fun kv => !((typedFields K).map (·.1)).contains kv.1) = ex := by
    rw [List.filter_append, List.filter_eq_nil_iff.mpr (fun kv hkv => by rw [hAin kv hkv]; decide),
      List.filter_eq_self.mpr (fun kv hkv => by rw [hBout kv hkv]; rfl), List.nil_append]
  have hfold : ex.foldl (fun d kv => lset d kv.1 (XV.s kv.2)) ([] : List (Str × XV)) = ex.map fun kv => (kv.1, XV.s kv.2) :=
    Proofs.Assoc.fold_lset_fresh ex (·.1) (fun kv => XV.s kv.2) [] hexnd (fun _ _ h => nomatch h)
  unfold Props.C13.fromDict
  simp only [List.filterMap_append, filterMap_dictItem_typed _ v htf,
    filterMap_dictItem_extra ex (fun kv hkv => ⟨(hex kv hkv).1, (hex kv hkv).2.1⟩), hknown, hextra, hfold]
  rw [List.map_congr_left fun nc hnc => by rw [lookup_readBack _ v hnd nc hnc]]

theorem toDict_fromDict_parts (K : Kind) (v : Str → Str) (ex : List (Str × Str))
    (hnd : ((typedFields K).map (·.1)).Nodup) (htf : ∀ nc ∈ typedFields K, replaceChar '-' '_' nc.1 = nc.1)
    (hex : ∀ kv ∈ ex, replaceChar '-' '_' kv.1 = kv.1 ∧ kv.2.isEmpty = false ∧ kv.1 ∉ (typedFields K).map (·.1))
    (hexnd : (ex.map (·.1)).Nodup)
    (hval : ∀ nc ∈ typedFields K, dumps (fromValue nc.2 (if (v nc.1).isEmpty then none else some (v nc.1))) = v nc.1)
    (hline : ∀ kv ∈ ex, extraOut (.s kv.2) = .s kv.2) :
    toDict (Props.C13.fromDict K (((typedFields K).map fun nc => (nc.1, XV.s (v nc.1))) ++ ex.map fun kv => (kv.1, XV.s kv.2))) =
      ((typedFields K).map fun nc => (nc.1, XV.s (v nc.1))) ++ ex.map fun kv => (kv.1, XV.s kv.2) := by
  rw [fromDict_parts K v ex hnd htf hex hexnd, Props.C07.toDict_fresh _ (by rw [List.map_map]; exact hexnd) (by
    intro nv hnv
    obtain ⟨kv, hkv, rfl⟩ := List.mem_map.mp hnv
    rw [List.map_map]
    exact (hex kv hkv).2.2)]
  simp only [List.map_map]
  rw [List.map_congr_left fun nc hnc => by rw [Function.comp, hval nc hnc],
    List.map_congr_left (l := ex) fun kv hkv => by rw [Function.comp, hline kv hkv]]

theorem dumps_valOf (p : Dep5.Para) (K : Kind) (hp : paraOk p = true) (hK : paraKind p = some K)
    (nc : Str × String) (hnc : nc ∈ typedFields K) :
    dumps (fromValue nc.2 (if (valOf p nc.1).isEmpty then none else some (valOf p nc.1))) = valOf p nc.1 := by
  unfold valOf
  cases hpk : pick p nc.1 with
  | none => exact absent_dumps K (paraKind_mem hp hK) nc hnc
  | some f =>
    obtain ⟨hfp, h5, _, hcls⟩ := pick_some p K hp hK nc hnc f hpk
    have hf := paraOk_fields hp f hfp
    show dumps (fromValue nc.2 (if (rawVal (canonField f)).isEmpty then none else some (rawVal (canonField f)))) = _
    rw [if_neg (by rw [rawVal_ne _ (canon_fieldOk f hf)]; exact Bool.false_ne_true), hcls, parse_rendered f hf h5]
    exact dumps_eq f hf h5

theorem fromDict_toDict (p : Dep5.Para) (hx : noMultiExtra p) (q : Model.Copyright.Para) (h : SpellsP p q) :
    toDict (Props.C13.fromDict q.kind (toDict q)) = toDict q := by
  obtain ⟨hp, K, hK, hKne, hqk, hqf, hqe⟩ := h
  have hKm := paraKind_mem hp hK
  have := toDict_fromDict_parts K (valOf p) ((is5 p).map fun f => (fieldKey f, f.first)) (typed_nodup K hKm)
    (typed_no_hyphen K hKm)
    (by
      intro kv hkv
      obtain ⟨f, hf, rfl⟩ := List.mem_map.mp hkv
      obtain ⟨hfp, hk⟩ := mem_is5.mp hf
      exact ⟨replace_idem _, List.isEmpty_eq_false_iff.mpr (extra_parts f hk (paraOk_fields hp f hfp)).1,
        is5_not_typed p K hp hK f hf⟩)
    (by rw [List.map_map]; exact is5_keys_nodup p hp)
    (dumps_valOf p K hp hK)
    (by
      intro kv hkv
      obtain ⟨f, hf, rfl⟩ := List.mem_map.mp hkv
      obtain ⟨hfp, hk⟩ := mem_is5.mp hf
      exact extraOut_first f hk (paraOk_fields hp f hfp))
  rw [hqk, toDict_eq p K hp hK hx q hqf hqe]
  simpa only [List.map_map, Function.comp_def] using this

/-! ### the property -/

theorem noMulti_of (d : Doc) (h : Props.C13.hasMultilineExtra d = false) : noMultiExtraDoc d := by
  intro p hp f hf hk
  unfold Props.C13.hasMultilineExtra at h
  rw [List.any_eq_false] at h
  have := h p hp
  rw [Bool.not_eq_true, List.any_eq_false] at this
  have := this f hf
  simp only [hk, beq_self_eq_true, Bool.true_and, Bool.not_eq_true, Bool.not_eq_false', List.isEmpty_iff] at this
  exact this

/-- **C13 for every document of the grammar** whose text blocks start with a paragraph line: outside finding K1 (an
unknown field with a continuation line) the object is a fixpoint of render → parse, every paragraph is reproduced by
`from_dict(to_dict(p))`, and the rendering has exactly one block of lines per paragraph.  Documents whose text blocks
start with a verbatim line (`wf d true` but not `wf d`) are not covered: the statement is partial there. -/
theorem sound_partial (d : Doc) (hw : wf d = true) : Props.C13.holdsOnK1 d (Props.C13.model d) = true := by
  unfold Props.C13.holdsOnK1 Props.C13.holdsWith
  cases hm : Props.C13.hasMultilineExtra d with
  | true => simp
  | false =>
    have hx := noMulti_of d hm
    obtain ⟨ps, qs, hps, hd1, hqs, hd2, hall, hallq⟩ := cycle d hw hx
    have hmodel : Props.C13.model d = .ok (Props.C13.Full.mk (ps.map Props.C13.kd) (canonDoc d).text
        (qs.map Props.C13.kd) (canonDoc d).text
        (ps.map fun p => toDict (Props.C13.fromDict p.kind (toDict p)))) := by
      unfold Props.C13.model
      simp only [hps, hd1, hqs, hd2]
    rw [hmodel]
    simp only [Bool.true_and, Bool.or_eq_true, Bool.and_eq_true, beq_iff_eq, Bool.not_eq_true']
    right
    refine ⟨⟨⟨kd_all d.paras ps qs hx hall hallq, trivial⟩, ?_⟩, ?_⟩
    · rw [List.map_map]
      apply List.map_congr_left
      intro q hq
      obtain ⟨p, hp, hpq⟩ := hall.exists_left q hq
      simp only [Function.comp, Props.C13.kd]
      exact fromDict_toDict p (hx p hp) q hpq
    · rw [List.length_map, hall.length_eq]
      exact noBlank_canon d hw

/-- non-vacuity: a document with every field kind but the line-separated one (6), free-layout items and a text
moved up to the declaration line -/
def sample : Doc :=
  let paras : List Dep5.Para := [
    [⟨"Format".toList, 0, "https://www.debian.org/doc/packaging-manuals/copyright-format/1.0/".toList, []⟩,
     ⟨"comment".toList, 4, [], [⟨0, "first".toList⟩, ⟨1, []⟩, ⟨2, "verbatim".toList⟩]⟩,
     ⟨"X-Foo".toList, 5, "bar".toList, []⟩],
    [⟨"Files".toList, 1, "a b".toList, [⟨3, "  .c".toList⟩]⟩,
     ⟨"Copyright".toList, 2, "2001 Foo".toList, [⟨3, "   Bar".toList⟩]⟩,
     ⟨"Licence".toList, 3, "MIT".toList, [⟨0, "text".toList⟩]⟩]]
  ⟨paras, [2, 1], renderAux paras [2, 1]⟩

example : wf sample = true ∧ Props.C13.hasMultilineExtra sample = false := by
  -- the kernel would otherwise encode each literal of `sample` to UTF-8 and decode it again
  unfold sample
  repeat rw [String.toList_ofList]
  decide +kernel

end Props.C13D
