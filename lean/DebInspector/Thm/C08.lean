/-
C08 — the merge loop of `get_paragraph_data`. The names met so far and the values met so far under one name are
ordered sets that grow by the same step `addNew`.
-/
import DebInspector.Props.C08
import DebInspector.Proofs.Assoc

namespace Props.C08
open Py Model.Email

/-! ### association lists -/

theorem vset_eq_lset (d : VDict) (k : Str) (v : List Str) : vset d k v = Model.Copyright.lset d k v := by
  induction d with
  | nil => rfl
  | cons kv rest ih => simp only [vset, Model.Copyright.lset, ih]

theorem dict_ext {β} (d : List (Str × β)) (g : Str → β) (hnd : (d.map (·.1)).Nodup)
    (hl : ∀ k ∈ d.map (·.1), d.lookup k = some (g k)) : d = (d.map (·.1)).map fun k => (k, g k) := by
  rw [List.map_map]
  refine (List.map_id d).symm.trans (List.map_congr_left fun kv hkv => ?_)
  have := (Proofs.Assoc.lookup_of_mem d hnd kv hkv).symm.trans (hl kv.1 (List.mem_map_of_mem hkv))
  exact Prod.ext rfl (Option.some.inj this)

/-! ### ordered sets -/

def addNew (acc : List Str) (v : Str) : List Str := if acc.contains v then acc else acc ++ [v]

def firstOccurrences : List Str → List Str → List Str
  | acc, [] => acc
  | acc, n :: ns => if acc.contains n then firstOccurrences acc ns else firstOccurrences (acc ++ [n]) ns

/-- distinct values in order of first appearance -/
def distinct (vs : List Str) : List Str := vs.foldl addNew []

theorem firstOccurrences_eq (acc ns : List Str) : firstOccurrences acc ns = ns.foldl addNew acc := by
  induction ns generalizing acc with
  | nil => rfl
  | cons n ns ih =>
    simp only [firstOccurrences, List.foldl_cons, addNew]
    split <;> exact ih _

theorem mem_addNew (acc : List Str) (v x : Str) : x ∈ addNew acc v ↔ x ∈ acc ∨ x = v := by
  unfold addNew
  split
  · rename_i hc
    exact ⟨Or.inl, fun h => h.elim id fun e => e ▸ List.contains_iff_mem.mp hc⟩
  · simp

theorem mem_foldl_addNew (vs acc : List Str) (x : Str) : x ∈ vs.foldl addNew acc ↔ x ∈ acc ∨ x ∈ vs := by
  induction vs generalizing acc with
  | nil => simp
  | cons v vs ih => rw [List.foldl_cons, ih, mem_addNew, List.mem_cons, or_assoc]

theorem nodup_foldl_addNew (vs acc : List Str) (h : acc.Nodup) : (vs.foldl addNew acc).Nodup := by
  induction vs generalizing acc with
  | nil => exact h
  | cons v vs ih =>
    apply ih
    unfold addNew
    split
    · exact h
    · rename_i hc
      refine List.nodup_append.mpr ⟨h, by simp, fun a ha b hb e => hc ?_⟩
      rw [← List.mem_singleton.mp hb, ← e]
      exact List.contains_iff_mem.mpr ha

theorem length_foldl_addNew_le (vs acc : List Str) : (vs.foldl addNew acc).length ≤ acc.length + vs.length := by
  induction vs generalizing acc with
  | nil => exact Nat.le_refl _
  | cons v vs ih =>
    rw [List.foldl_cons, List.length_cons]
    refine Nat.le_trans (ih _) ?_
    unfold addNew
    split
    · omega
    · rw [List.length_append, List.length_singleton]; omega

theorem nodup_of_length_foldl_addNew (vs acc : List Str) (h : (vs.foldl addNew acc).length = acc.length + vs.length) :
    vs.Nodup ∧ ∀ v ∈ vs, v ∉ acc := by
  induction vs generalizing acc with
  | nil => exact ⟨List.nodup_nil, nofun⟩
  | cons v vs ih =>
    rw [List.foldl_cons, List.length_cons, addNew] at h
    split at h
    · have := length_foldl_addNew_le vs acc
      rw [h] at this
      exact absurd this (Nat.not_succ_le_self _)
    · rename_i hc
      obtain ⟨hnd, hnew⟩ := ih (acc ++ [v]) (by
        rw [List.length_append, List.length_singleton, Nat.add_assoc, Nat.add_comm 1]
        exact h)
      refine ⟨List.nodup_cons.mpr ⟨fun hm => hnew v hm (by simp), hnd⟩,
        List.forall_mem_cons.mpr ⟨by simpa using hc, fun m hm hma => hnew m hm (List.mem_append_left _ hma)⟩⟩

theorem distinct_mem (vs : List Str) : ∀ x ∈ distinct vs, x ∈ vs := by
  intro x hx
  simpa using (mem_foldl_addNew vs [] x).mp hx

theorem distinct_has (vs : List Str) (x : Str) (hx : x ∈ vs) : x ∈ distinct vs :=
  (mem_foldl_addNew vs [] x).mpr (Or.inr hx)

theorem distinct_ne_nil (vs : List Str) (h : vs ≠ []) : distinct vs ≠ [] := by
  cases vs with
  | nil => exact absurd rfl h
  | cons v vs => exact List.ne_nil_of_mem (distinct_has _ v (List.mem_cons_self ..))

theorem distinct_snoc (vs : List Str) (v : Str) : distinct (vs ++ [v]) = addNew (distinct vs) v := by
  simp [distinct, List.foldl_append]

/-! ### the keys of the merged mapping -/

/-- the key of an item, the value of an item, as the merging loop sees them -/
def keyOf (nv : Str × Str) : Str := strip (lowerAscii nv.1)
def valOf (nv : Str × Str) : Str := strip nv.2

theorem vset_keys (d : VDict) (k : Str) (v : List Str) : (vset d k v).map (·.1) = addNew (d.map (·.1)) k := by
  rw [vset_eq_lset, Proofs.Assoc.lset_keys_eq, addNew]
  simp only [List.contains_iff_mem]

theorem mergeStep_keys (d : VDict) (nv : Str × Str) :
    (mergeStep d nv).map (·.1) = addNew (d.map (·.1)) (keyOf nv) :=
  vset_keys d _ _

theorem foldl_mergeStep_keys (its : List (Str × Str)) (d : VDict) :
    (its.foldl mergeStep d).map (·.1) = (its.map keyOf).foldl addNew (d.map (·.1)) := by
  induction its generalizing d with
  | nil => rfl
  | cons nv rest ih =>
    rw [List.foldl_cons, ih, mergeStep_keys]
    rfl

/-- **the keys of the merged mapping are the lower-cased, trimmed names in order of first occurrence**:
a repeated name never creates a second key and never moves the first one -/
theorem mergeItems_keys (items : List (Str × Str)) :
    (mergeItems items).map (·.1) = firstOccurrences [] (items.map fun nv => strip (lowerAscii nv.1)) := by
  rw [firstOccurrences_eq, mergeItems, List.map_map]
  exact foldl_mergeStep_keys items []

/-! ### the values of the merged mapping -/

/-- the non-empty values spelled for key `k`, in order -/
def valuesFor (k : Str) (items : List (Str × Str)) : List Str :=
  ((items.filter fun nv => keyOf nv = k).map valOf).filter (!·.isEmpty)

def mentioned (k : Str) (items : List (Str × Str)) : Bool := items.any fun nv => keyOf nv = k

theorem mentioned_snoc (k : Str) (pre : List (Str × Str)) (nv : Str × Str) :
    mentioned k (pre ++ [nv]) = (mentioned k pre || decide (keyOf nv = k)) := by
  simp [mentioned, List.any_append]

theorem valuesFor_snoc (k : Str) (pre : List (Str × Str)) (nv : Str × Str) :
    valuesFor k (pre ++ [nv]) =
      valuesFor k pre ++ if keyOf nv = k ∧ (valOf nv).isEmpty = false then [valOf nv] else [] := by
  unfold valuesFor
  rw [List.filter_append, List.map_append, List.filter_append]
  by_cases e : keyOf nv = k
  · cases hv : (valOf nv).isEmpty <;> simp [e, hv]
  · simp [e]

theorem valuesFor_not_mentioned (k : Str) (pre : List (Str × Str)) (h : mentioned k pre = false) : valuesFor k pre = [] := by
  have : (pre.filter fun nv => keyOf nv = k) = [] :=
    List.filter_eq_nil_iff.mpr fun x hx => by simpa using List.any_eq_false.mp h x hx
  rw [valuesFor, this]
  rfl

/-- what the loop holds for key `k` after the items `items` -/
def specV (k : Str) (items : List (Str × Str)) : Option (List Str) :=
  if mentioned k items then some (distinct (valuesFor k items)) else none

theorem specV_getD (k : Str) (pre : List (Str × Str)) : (specV k pre).getD [] = distinct (valuesFor k pre) := by
  unfold specV
  cases h : mentioned k pre with
  | true => rfl
  | false => rw [valuesFor_not_mentioned k pre h]; rfl

theorem mergeStep_spec (d : VDict) (pre : List (Str × Str)) (nv : Str × Str)
    (hinv : ∀ k, d.lookup k = specV k pre) (k : Str) :
    (mergeStep d nv).lookup k = specV k (pre ++ [nv]) := by
  show (vset d (keyOf nv) (if (valOf nv).isEmpty || ((d.lookup (keyOf nv)).getD []).contains (valOf nv)
    then (d.lookup (keyOf nv)).getD [] else (d.lookup (keyOf nv)).getD [] ++ [valOf nv])).lookup k = _
  rw [vset_eq_lset, Proofs.Assoc.lookup_lset, hinv, specV_getD, specV, mentioned_snoc, valuesFor_snoc]
  by_cases e : k = keyOf nv
  · -- the key of the item: its value joins the values of the key, unless empty or met before
    rw [if_pos e, ← e]
    cases hv : (valOf nv).isEmpty with
    | true => simp
    | false => simp [distinct_snoc, addNew]
  · have e' : ¬ keyOf nv = k := fun h => e h.symm
    simp [e, e', hinv, specV]

theorem foldl_mergeStep_spec (items pre : List (Str × Str)) (d : VDict)
    (hinv : ∀ k, d.lookup k = specV k pre) (k : Str) :
    (items.foldl mergeStep d).lookup k = specV k (pre ++ items) := by
  induction items generalizing pre d with
  | nil => simpa using hinv k
  | cons nv rest ih =>
    rw [List.foldl_cons]
    have := ih (pre ++ [nv]) (mergeStep d nv) (mergeStep_spec d pre nv hinv)
    simpa using this

/-- **duplicates merge losslessly** — after the merging loop, every key that is mentioned maps to the distinct
non-empty values spelled for it (trimmed, whole: a multi-line value is one value), in order of first appearance,
newline-separated -/
theorem mergeItems_lookup (items : List (Str × Str)) (k : Str) :
    (mergeItems items).lookup k =
      if mentioned k items then some (Model.Email.joinNl (distinct (valuesFor k items))) else none := by
  rw [mergeItems, Proofs.Assoc.lookup_map_val _ (fun _ => Model.Email.joinNl), foldl_mergeStep_spec items [] [] (fun _ => rfl) k, List.nil_append, specV]
  split <;> rfl

theorem mergeItems_eq (items : List (Str × Str)) :
    mergeItems items = (distinct (items.map keyOf)).map fun k => (k, Model.Email.joinNl (distinct (valuesFor k items))) := by
  have hkeys : (mergeItems items).map (·.1) = distinct (items.map keyOf) :=
    (mergeItems_keys items).trans (firstOccurrences_eq _ _)
  rw [← hkeys]
  refine dict_ext _ _ (hkeys ▸ nodup_foldl_addNew _ [] List.nodup_nil) fun k hk => ?_
  obtain ⟨nv, hnv, rfl⟩ := List.mem_map.mp (distinct_mem _ k (hkeys ▸ hk))
  have hm : mentioned (keyOf nv) items = true := List.any_eq_true.mpr ⟨nv, hnv, decide_eq_true rfl⟩
  rw [mergeItems_lookup, if_pos hm]

/-- non-vacuity: a value repeated after another one, a `From ` line first, a body after a blank line -/
example : getParagraphData "a: 1\na: 2\na: 1".toList = [("a".toList, "1\n2".toList)] := by
  -- the literals as character lists: the kernel would otherwise encode each to UTF-8 and decode it again
  repeat rw [String.toList_ofList]
  decide +kernel
example : getParagraphData "From me\na: 1\nb: 3".toList =
    [("unknown".toList, "From me".toList), ("a".toList, "1".toList), ("b".toList, "3".toList)] := by
  repeat rw [String.toList_ofList]
  decide +kernel
example : getParagraphData "a: 1\n\nbody text\n".toList = [("a".toList, "1".toList), ("unknown".toList, "body text".toList)] := by
  repeat rw [String.toList_ofList]
  decide +kernel

/-- non-vacuity: a, b, a and a, a, b patterns interleaved with another field; a multi-line value repeated, and a
single-line value equal to one line of an earlier multi-line value (kept: it is a distinct value) -/
example : mergeItems [("A".toList, "1".toList), ("b".toList, "x".toList), ("a".toList, " 2 ".toList), ("a".toList, "1".toList), ("B".toList, "x".toList)]
    = [("a".toList, "1\n2".toList), ("b".toList, "x".toList)] := by
  repeat rw [String.toList_ofList]
  decide +kernel
example : mergeItems [("a".toList, "x\n c".toList), ("a".toList, "x".toList), ("a".toList, "x\n c".toList)]
    = [("a".toList, "x\n c\nx".toList)] := by
  repeat rw [String.toList_ofList]
  decide +kernel

end Props.C08
