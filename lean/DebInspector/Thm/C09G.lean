/-
C09 — from the tracked field groups to the typed paragraphs (`sound_from_groups`): the typed value of every field kind, one
paragraph of the grammar (`para_typed`, `para_matches`), the recovery rewrites on a document without catch-all paragraphs,
classification and validity.
-/
import DebInspector.Thm.C09
import DebInspector.Thm.C07

namespace Props.C09G
open Py Model.Deb822 Model.Debcon Model.Copyright Props.Dep5 Props.C09 Proofs.Assoc

inductive All2 {α β} (R : α → β → Prop) : List α → List β → Prop
  | nil : All2 R [] []
  | cons {a b as bs} : R a b → All2 R as bs → All2 R (a :: as) (b :: bs)

namespace All2
universe u v w x
variable {α : Type u} {β : Type v} {γ : Type w} {δ : Type x} {R : α → β → Prop} {as : List α} {bs : List β}

theorem length_eq (h : All2 R as bs) : bs.length = as.length := by
  induction h with
  | nil => rfl
  | cons _ _ ih => simp [ih]

theorem isEmpty_eq (h : All2 R as bs) : as.isEmpty = bs.isEmpty := by
  cases h <;> rfl

theorem zip_all (h : All2 R as bs) (F : β → γ) (pr : α × γ → Bool) (hp : ∀ a b, R a b → pr (a, F b) = true) :
    (as.zip (bs.map F)).all pr = true := by
  induction h with
  | nil => rfl
  | cons hr _ ih => simp only [List.map_cons, List.zip_cons_cons, List.all_cons, hp _ _ hr, ih, Bool.and_self]

theorem of_mem_zip (h : All2 R as bs) : ∀ p ∈ as.zip bs, R p.1 p.2 := by
  induction h with
  | nil => exact nofun
  | cons hab _ ih => rw [List.zip_cons_cons]; exact List.forall_mem_cons.mpr ⟨hab, ih⟩

theorem map_both {S : γ → δ → Prop} (h : All2 R as bs) (f : α → γ) (g : β → δ) (hfg : ∀ a b, R a b → S (f a) (g b)) :
    All2 S (as.map f) (bs.map g) := by
  induction h with
  | nil => exact All2.nil
  | cons h1 _ ih => exact All2.cons (hfg _ _ h1) ih

theorem map_same {R : β → γ → Prop} (l : List α) (f : α → β) (g : α → γ) (h : ∀ a ∈ l, R (f a) (g a)) :
    All2 R (l.map f) (l.map g) := by
  induction l with
  | nil => exact All2.nil
  | cons a as ih => exact All2.cons (h a List.mem_cons_self) (ih fun x hx => h x (List.mem_cons_of_mem _ hx))

theorem of_map {R : β → γ → Prop} (f : α → β) {l : List α} {cs : List γ} (h : All2 R (l.map f) cs) :
    All2 (fun a c => R (f a) c) l cs := by
  induction l generalizing cs with
  | nil => cases h; exact All2.nil
  | cons a l ih =>
    cases h with
    | cons h1 h2 => exact All2.cons h1 (ih h2)

theorem of_map_eq (f : α → γ) (g : β → γ) (h : bs.map g = as.map f) : All2 (fun a b => g b = f a) as bs := by
  induction as generalizing bs with
  | nil => cases bs with
    | nil => exact All2.nil
    | cons => cases h
  | cons a as ih => cases bs with
    | nil => cases h
    | cons b bs => rw [List.map_cons, List.map_cons, List.cons.injEq] at h; exact All2.cons h.1 (ih h.2)

theorem imp_mem {S : α → β → Prop} (h : All2 R as bs) (himp : ∀ a ∈ as, ∀ b, R a b → S a b) : All2 S as bs := by
  induction h with
  | nil => exact All2.nil
  | cons h1 _ ih =>
    exact All2.cons (himp _ List.mem_cons_self _ h1) (ih fun a ha => himp a (List.mem_cons_of_mem _ ha))

theorem forall_both {P : α → Prop} {Q : β → Prop} (h : All2 R as bs) (hR : ∀ a b, R a b → P a ∧ Q b) :
    (∀ a ∈ as, P a) ∧ ∀ b ∈ bs, Q b := by
  induction h with
  | nil => exact ⟨nofun, nofun⟩
  | cons h1 _ ih =>
    exact ⟨List.forall_mem_cons.mpr ⟨(hR _ _ h1).1, ih.1⟩, List.forall_mem_cons.mpr ⟨(hR _ _ h1).2, ih.2⟩⟩

theorem forall_imp {P : α → Prop} {Q : β → Prop} (h : All2 R as bs) (hR : ∀ a b, R a b → P a → Q b) (hP : ∀ a ∈ as, P a) :
    ∀ b ∈ bs, Q b := by
  induction h with
  | nil => exact nofun
  | cons h1 _ ih =>
    exact List.forall_mem_cons.mpr ⟨hR _ _ h1 (hP _ List.mem_cons_self), ih fun a ha => hP a (List.mem_cons_of_mem _ ha)⟩

theorem getLast_rel (h : All2 R as bs) {a : α} (ha : as.getLast? = some a) : ∃ b, bs.getLast? = some b ∧ R a b := by
  induction h with
  | nil => cases ha
  | @cons a0 b0 _ _ hab hr ih =>
    cases hr with
    | nil => cases ha; exact ⟨b0, rfl, hab⟩
    | cons _ _ => rw [List.getLast?_cons_cons] at ha ⊢; exact ih ha

theorem keys {κ} {R : (κ × α) → (κ × β) → Prop} {as : List (κ × α)} {bs : List (κ × β)}
    (h : All2 R as bs) (hk : ∀ a b, R a b → a.1 = b.1) : bs.map (·.1) = as.map (·.1) := by
  induction h with
  | nil => rfl
  | cons h1 _ ih => simp only [List.map_cons, ih, hk _ _ h1]

theorem lookup_rel {κ} [BEq κ] {as : List (κ × α)} {bs : List (κ × β)}
    (h : All2 (fun a b => a.1 = b.1 ∧ R a.2 b.2) as bs) (k : κ) :
    (as.lookup k = none ∧ bs.lookup k = none) ∨ ∃ x y, as.lookup k = some x ∧ bs.lookup k = some y ∧ R x y := by
  induction h with
  | nil => exact Or.inl ⟨rfl, rfl⟩
  | @cons a b _ _ hab _ ih =>
    obtain ⟨a1, a2⟩ := a
    obtain ⟨b1, b2⟩ := b
    cases (hab.1 : a1 = b1)
    rw [List.lookup_cons, List.lookup_cons]
    cases k == a1 with
    | true => exact Or.inr ⟨a2, b2, rfl, rfl, hab.2⟩
    | false => exact ih

theorem exists_left (h : All2 R as bs) : ∀ b ∈ bs, ∃ a ∈ as, R a b := by
  induction h with
  | nil => exact nofun
  | cons hab _ ih =>
    exact List.forall_mem_cons.mpr ⟨⟨_, List.mem_cons_self, hab⟩, fun b hb =>
      let ⟨a, ha, hr⟩ := ih b hb; ⟨a, List.mem_cons_of_mem _ ha, hr⟩⟩

theorem append {a1 a2 : List α} {b1 b2 : List β} (h1 : All2 R a1 b1) (h2 : All2 R a2 b2) : All2 R (a1 ++ a2) (b1 ++ b2) := by
  induction h1 with
  | nil => exact h2
  | cons h _ ih => exact All2.cons h ih

theorem flatten {as : List (List α)} {bs : List (List β)} (h : All2 (All2 R) as bs) : All2 R as.flatten bs.flatten := by
  induction h with
  | nil => exact All2.nil
  | cons hab _ ih => exact hab.append ih

theorem flatten_flatMap_eq {as : List (List α)} {bs : List (List β)} {R : List α → List β → Prop} (h : All2 R as bs)
    (F : α → List γ) (G : β → List γ) (hR : ∀ a b, R a b → a.flatMap F = b.flatMap G) :
    as.flatten.flatMap F = bs.flatten.flatMap G := by
  induction h with
  | nil => rfl
  | cons hab _ ih => rw [List.flatten_cons, List.flatten_cons, List.flatMap_append, List.flatMap_append, hR _ _ hab, ih]

theorem of_mapExcept {f : α → Except PyExc β} (h : Model.Copyright.mapExcept f as = .ok bs) :
    All2 (fun a b => f a = .ok b) as bs := by
  induction as generalizing bs with
  | nil => cases Except.ok.inj h; exact All2.nil
  | cons a as ih =>
    obtain ⟨b, bs', hb, hbs, rfl⟩ := mapExcept_cons_inv h
    exact All2.cons hb (ih hbs)

theorem mapExcept_rel {S : γ → δ → Prop} {f : α → Except PyExc γ} {g : β → Except PyExc δ} (h : All2 R as bs)
    (step : ∀ a b, a ∈ as → R a b → ∀ c, f a = .ok c → ∃ d, g b = .ok d ∧ S c d) {cs : List γ}
    (hf : Model.Copyright.mapExcept f as = .ok cs) : ∃ ds, Model.Copyright.mapExcept g bs = .ok ds ∧ All2 S cs ds := by
  induction h generalizing cs with
  | nil => cases Except.ok.inj hf; exact ⟨[], rfl, All2.nil⟩
  | @cons a b as bs hab _ ih =>
    obtain ⟨c, cs', hc, hcs, rfl⟩ := mapExcept_cons_inv hf
    obtain ⟨d, hd, hcd⟩ := step a b List.mem_cons_self hab c hc
    obtain ⟨ds, hds, hrel⟩ := ih (fun a' b' ha' => step a' b' (List.mem_cons_of_mem _ ha')) hcs
    exact ⟨d :: ds, by rw [mapExcept_cons_ok hd, hds]; rfl, All2.cons hcd hrel⟩

end All2

/-- the raw value of a field of the document, as the line-tracking parser hands it over -/
def rawVal (f : Field) : Str := Model.Debcon.joinNl (f.first :: f.conts.map rawLine)

/-- the tracked field `x` spells the field `f` of the document: its name is the normalised label, its lines are the first
line and the continuation lines as written -/
def SpellsF (f : Field) (x : Fld) : Prop :=
  x.name = normLabel f.label ∧ x.lines.map (·.val) = f.first :: f.conts.map rawLine

theorem spells_text (f : Field) (x : Fld) (h : SpellsF f x) : fieldText x = rawVal f := by
  unfold fieldText rawVal; rw [h.2]

theorem All2.names {p : Dep5.Para} {g : List Fld} (h : All2 SpellsF p g) : g.map (·.name) = p.map fun f => normLabel f.label := by
  induction h with
  | nil => rfl
  | cons hs _ ih => simp only [List.map_cons, ih, hs.1]

theorem freshName_fresh (seen : List Str) (name : Str) (suffix : Nat) (h : seen.contains name = false) :
    freshName seen name (seen.length + 1) name suffix = some (name, suffix) := by
  simp only [freshName, h, Bool.false_eq_true, if_false]

open Proofs.CopyrightTotal in
theorem addField_fresh (knownNames : List Str) (a : Acc) (x : Fld) (f : Field) (hs : SpellsF f x)
    (hne : (rawVal f).isEmpty = false) (hfresh : a.seen.contains (fieldKey f) = false) (hinv : KeysSeen a) :
    ∃ rng, addField knownNames a x = .ok (store knownNames a (fieldKey f) a.suffix rng (lstrip (rawVal f))) := by
  have hkey : replaceChar '-' '_' x.name = fieldKey f := by rw [hs.1]; rfl
  obtain ⟨name, suffix, _, _, hfr, _, _, _, h⟩ := addField_store knownNames a x hinv (by rw [spells_text f x hs, hne])
  rw [hkey, freshName_fresh _ _ _ hfresh] at hfr
  cases hfr
  exact ⟨_, by rw [h, spells_text f x hs]⟩

theorem addFields_para (knownNames : List Str) (p : Dep5.Para) (g : List Fld) (hall : All2 SpellsF p g) (a : Acc)
    (hk : ∀ k ∈ a.known.map (·.1), k ∈ a.seen) (he : ∀ k ∈ a.extra.map (·.1), k ∈ a.seen)
    (hne : ∀ f ∈ p, (rawVal f).isEmpty = false)
    (hfresh : ∀ f ∈ p, a.seen.contains (fieldKey f) = false) (hnd : (p.map fieldKey).Nodup) :
    ∃ a', addFields knownNames a g = .ok a' ∧
      a'.known = a.known ++ (p.filter fun f => knownNames.contains (fieldKey f)).map (fun f => (fieldKey f, lstrip (rawVal f))) ∧
      a'.extra = a.extra ++ (p.filter fun f => !knownNames.contains (fieldKey f)).map
        (fun f => (fieldKey f, XV.s (lstrip (rawVal f)))) := by
  induction hall generalizing a with
  | nil => exact ⟨a, rfl, by simp, by simp⟩
  | @cons f x fs xs hs _ ih =>
    obtain ⟨rng, h1⟩ := addField_fresh knownNames a x f hs (hne f (by simp)) (hfresh f (by simp)) ⟨hk, he⟩
    have hks := Proofs.CopyrightTotal.store_keysSeen ⟨hk, he⟩ knownNames (fieldKey f) a.suffix rng (lstrip (rawVal f))
    rw [List.map_cons, List.nodup_cons] at hnd
    obtain ⟨a2, h2, hk2, he2⟩ := ih _ hks.1 hks.2 (fun f' hf' => hne f' (List.mem_cons_of_mem _ hf'))
      (fun f' hf' => Bool.eq_false_iff.mpr fun hc => by
        -- the keys of the paragraph are distinct, so the later ones are still unseen
        rcases List.mem_append.mp (List.contains_iff_mem.mp hc) with h | h
        · exact Bool.eq_false_iff.mp (hfresh f' (List.mem_cons_of_mem _ hf')) (List.contains_iff_mem.mpr h)
        · exact hnd.1 (by rw [← List.mem_singleton.mp h]; exact List.mem_map_of_mem hf'))
      hnd.2
    refine ⟨a2, by rw [Proofs.CopyrightTotal.addFields_cons_ok h1]; exact h2, ?_, ?_⟩
    · rw [hk2]; simp only [Proofs.CopyrightTotal.store, List.filter_cons]
      cases knownNames.contains (fieldKey f) <;> simp
    · rw [he2]; simp only [Proofs.CopyrightTotal.store, List.filter_cons]
      cases knownNames.contains (fieldKey f) <;> simp

/-! ### the typed value of every known field -/

/-- **line-based lists** (`Upstream-Contact`): one trimmed item per line -/
theorem lineSep_typed (f : Field) (hk : f.kind = 6) (h : fieldOk f = true) :
    fromValue "LineSeparatedField" (some (rawVal f)) = expectedFV f := by
  obtain ⟨_, hpl, htrim⟩ := fieldOk_base f h
  obtain ⟨hne, hconts⟩ := fieldOk_kind f h hk
  have hsl := splitlines_value f.first f.conts (plain_noB _ hpl) hne fun l hl => (tline_facts l (hconts l hl).2).rawNoB
  simp only [rawVal, fromValue, String.reduceEq, if_false, if_true, expectedFV, hk, lineSeparated, Proofs.Splitlines.joinNl_isEmpty _ _ hne,
    Bool.false_eq_true, hsl, List.map_cons, List.map_map, strip_trimmed _ htrim]
  congr 2
  apply List.map_congr_left
  intro l hl
  obtain ⟨hk0, hok⟩ := hconts l hl
  have : strip (' ' :: l.content) = strip l.content := by simp [strip, lstrip, sp_space]
  simp only [Function.comp, rawLine, hk0]
  rw [this, strip_trimmed _ (tline0 hk0 hok).2.2.1]

/-- the converter class that `typedFields` gives a known field of kind 0 to 4 or 6; kind 5 (an unknown field) has none and
is never asked for -/
def clsOf : Nat → String
  | 0 => "SingleLineField"
  | 1 => "AnyWhiteSpaceSeparatedField"
  | 2 => "CopyrightField"
  | 3 => "LicenseField"
  | 4 => "FormattedTextField"
  | _ => "LineSeparatedField"

theorem lstrip_rawVal (f : Field) (hne : f.first ≠ []) (htrim : trimmed f.first = true) : lstrip (rawVal f) = rawVal f :=
  lstrip_joinNl _ _ hne htrim

theorem label_ok {f : Field} (h : fieldOk f = true) : labelOk f = true := (fieldOk_base f h).1

theorem first_trimmed (g : Field) (h : fieldOk g = true) : trimmed g.first = true := (fieldOk_base g h).2.2

/-- only a formatted text may start on its first continuation line -/
theorem first_ne (f : Field) (h : fieldOk f = true) (h4 : f.kind ≠ 4) : f.first ≠ [] := by
  rcases kind_cases f h with hk | hk | hk | hk | hk | hk | hk <;> have hf := fieldOk_kind f h hk
  · exact hf.1
  · exact (ss_of _ hf.1).ne
  · exact (ss_of _ hf.1).ne
  · exact hf.1
  · exact absurd hk h4
  · exact hf.1
  · exact hf.1

theorem typed_value (f : Field) (h : fieldOk f = true) (h5 : f.kind ≠ 5) :
    fromValue (clsOf f.kind) (some (lstrip (rawVal f))) = expectedFV f := by
  have hl : f.kind ≠ 4 → lstrip (rawVal f) = rawVal f := fun h4 => lstrip_rawVal f (first_ne f h h4) (first_trimmed f h)
  rcases kind_cases f h with hk | hk | hk | hk | hk | hk | hk
  · rw [hl (by omega), hk]; exact single_typed f hk h
  · rw [hl (by omega), hk]; exact wsSep_typed f hk h
  · rw [hl (by omega), hk]; exact copyright_typed f hk h
  · rw [hl (by omega), hk]; exact license_typed f hk h
  · rw [hk]; exact formatted_typed f hk h
  · exact absurd hk h5
  · rw [hl (by omega), hk]; exact lineSep_typed f hk h

theorem rawVal_ne (f : Field) (h : fieldOk f = true) : (rawVal f).isEmpty = false := by
  rw [List.isEmpty_eq_false_iff]
  by_cases hne : f.first = []
  · -- a formatted text without a first line has a continuation line
    have hk : f.kind = 4 := Decidable.byContradiction fun h4 => first_ne f h h4 hne
    have hf := fieldOk_kind f h hk
    obtain ⟨l, ls, hc⟩ := List.exists_cons_of_ne_nil (hf.2.resolve_left (absurd hne))
    simp [rawVal, hne, hc, Model.Debcon.joinNl]
  · exact Proofs.Splitlines.joinNl_ne_nil' f.first (f.conts.map rawLine) hne

/-! ### the shape of a normalised name -/

theorem labelOk_shape (f : Field) (h : labelOk f = true) :
    headP isAsciiAlpha f.label = true ∧ f.label.all (fun c => isAsciiAlnum c || c == '-') = true := by
  rw [labelOk, Bool.and_eq_true, Bool.and_eq_true] at h
  exact h.1

-- the two spellings `normLabel` knows, as character lists
def licenceS : Str := ['l', 'i', 'c', 'e', 'n', 'c', 'e']
def licenseS : Str := ['l', 'i', 'c', 'e', 'n', 's', 'e']

theorem licenceS_eq : "licence".toList = licenceS := by decide
theorem licenseS_eq : "license".toList = licenseS := by decide

theorem normLabel_def (s : Str) : normLabel s = if lowerAscii s = licenceS then licenseS else lowerAscii s := by
  rw [← licenceS_eq, ← licenseS_eq]; rfl

theorem normLabel_shape (s : Str) (hh : headP isAsciiAlpha s = true) (ha : s.all (fun c => isAsciiAlnum c || c == '-') = true) :
    headP isAsciiAlpha (normLabel s) = true ∧ (normLabel s).all (fun c => isAsciiAlnum c || c == '-') = true := by
  rw [normLabel_def]
  split
  · exact ⟨by decide, by decide⟩
  · exact ⟨by rw [headP_lower isAsciiAlpha fun c => (class_facts c).1]; exact hh, by rw [all_lower (fun c => isAsciiAlnum c || c == '-') nameCh_lower]; exact ha⟩

theorem label_no_us (f : Field) (h : fieldOk f = true) : '_' ∉ normLabel f.label := fun hm =>
  have hs := labelOk_shape f (label_ok h)
  absurd (List.all_eq_true.mp (normLabel_shape f.label hs.1 hs.2).2 '_' hm) (by decide)

/-! ### which names are typed fields of which paragraph class -/

theorem paraOk_fields {p : Dep5.Para} (hp : paraOk p = true) : ∀ f ∈ p, fieldOk f = true := by
  simp only [paraOk, Bool.and_eq_true, List.all_eq_true] at hp
  exact hp.1.1.2

theorem kind_ne_catchall {p : Dep5.Para} {K : Kind} (hp : paraOk p = true) (hK : paraKind p = some K) : K ≠ .catchall := by
  rintro rfl
  simp only [paraOk, Bool.and_eq_true, hK] at hp
  exact absurd hp.2 (by simp)

theorem kind_mem (K : Kind) (h : K ≠ .catchall) : K ∈ [Kind.header, Kind.files, Kind.license] := by
  cases K <;> simp at h ⊢

theorem paraKind_mem {p : Dep5.Para} {K : Kind} (hp : paraOk p = true) (hK : paraKind p = some K) :
    K ∈ [Kind.header, Kind.files, Kind.license] :=
  kind_mem K (kind_ne_catchall hp hK)

theorem contains_ofList (L : List String) (l : Str) : L.contains (String.ofList l) = (L.map String.toList).contains l := by
  induction L with
  | nil => rfl
  | cons s L ih =>
    rw [List.map_cons, List.contains_cons, List.contains_cons, ih]
    congr 1
    rw [Bool.eq_iff_iff, beq_iff_eq, beq_iff_eq]
    exact ⟨fun e => e ▸ String.toList_ofList.symm, fun e => e ▸ String.ofList_toList⟩

/-- the (kind, name) pairs of the known fields a paragraph class admits in the grammar -/
def allowed : Kind → List (Nat × Str)
  | .header => [(0, "format".toList), (0, "upstream-name".toList), (1, "files-excluded".toList), (2, "copyright".toList),
      (3, "license".toList), (4, "source".toList), (4, "disclaimer".toList), (4, "comment".toList), (6, "upstream-contact".toList)]
  | .files => [(1, "files".toList), (2, "copyright".toList), (3, "license".toList), (4, "comment".toList)]
  | .license => [(3, "license".toList), (4, "comment".toList)]
  | .catchall => []

/-- all that is used of the regenerated tables of typed fields, in one sweep -/
theorem typed_table : ∀ K ∈ [Kind.header, Kind.files, Kind.license],
    ((typedFields K).map (·.1)).Nodup ∧
    (∀ nc ∈ typedFields K, replaceChar '-' '_' nc.1 = nc.1 ∧
      knownLabels.contains (String.ofList (replaceChar '_' '-' nc.1)) = true ∧ dumps (fromValue nc.2 none) = []) ∧
    ∀ ks ∈ allowed K, (typedFields K).lookup (replaceChar '-' '_' ks.2) = some (clsOf ks.1) := by
  decide +kernel

theorem typed_nodup (K : Kind) (hK : K ∈ [Kind.header, Kind.files, Kind.license]) : ((typedFields K).map (·.1)).Nodup :=
  (typed_table K hK).1

theorem typed_no_hyphen (K : Kind) (hK : K ∈ [Kind.header, Kind.files, Kind.license]) (nc : Str × String)
    (hnc : nc ∈ typedFields K) : replaceChar '-' '_' nc.1 = nc.1 :=
  ((typed_table K hK).2.1 nc hnc).1

theorem absent_dumps (K : Kind) (hK : K ∈ [Kind.header, Kind.files, Kind.license]) (nc : Str × String)
    (hnc : nc ∈ typedFields K) : dumps (fromValue nc.2 none) = [] :=
  ((typed_table K hK).2.1 nc hnc).2.2

theorem allowed_table (K : Kind) (hK : K ∈ [Kind.header, Kind.files, Kind.license]) (ks : Nat × Str) (hks : ks ∈ allowed K) :
    (typedFields K).lookup (replaceChar '-' '_' ks.2) = some (clsOf ks.1) ∧
    ((typedFields K).map (·.1)).contains (replaceChar '-' '_' ks.2) = true := by
  have h := (typed_table K hK).2.2 ks hks
  exact ⟨h, by rw [← lookup_isSome_eq, h]; rfl⟩

/-- the (kind, name) pairs of the known fields of the grammar -/
def candidates : List (Nat × Str) :=
  [(0, "format".toList), (0, "upstream-name".toList), (1, "files".toList), (1, "files-excluded".toList), (2, "copyright".toList),
   (3, "license".toList), (4, "source".toList), (4, "disclaimer".toList), (4, "comment".toList), (6, "upstream-contact".toList)]

/-- the clause of `paraOk` on the fields a paragraph of class `K` may hold, on a (kind, name) pair -/
def classOK (K : Kind) (kn : Nat × Str) : Bool :=
  match K with
  | .header => kn.2 != "files".toList
  | .files => ["files".toList, "copyright".toList, "license".toList, "comment".toList].contains kn.2 || kn.1 == 5
  | .license => ["license".toList, "comment".toList].contains kn.2 || kn.1 == 5
  | .catchall => false

/-- `candidates`, `classOK` and `allowed` against the literals of `labelOk` and `paraOk`, in one sweep -/
theorem cand_table :
    ((∀ s ∈ ["format", "upstream-name"], (0, s.toList) ∈ candidates) ∧
     (∀ s ∈ ["files", "files-excluded"], (1, s.toList) ∈ candidates) ∧
     (2, "copyright".toList) ∈ candidates ∧ (3, "license".toList) ∈ candidates ∧
     (∀ s ∈ ["source", "disclaimer", "comment"], (4, s.toList) ∈ candidates) ∧
     (6, "upstream-contact".toList) ∈ candidates) ∧
    ∀ kn ∈ candidates, kn.2 ≠ "format-specification".toList ∧
      ∀ K ∈ [Kind.header, Kind.files, Kind.license], classOK K kn = true → kn ∈ allowed K := by
  -- as character lists the kernel need not encode the literals to UTF-8 and decode them again
  repeat rw [String.toList_ofList]
  decide +kernel

theorem cand_of (f : Field) (hfo : fieldOk f = true) : f.kind = 5 ∨ (f.kind, normLabel f.label) ∈ candidates := by
  have of_names : ∀ (k : Nat) (L : List String), (∀ s ∈ L, (k, s.toList) ∈ candidates) →
      L.contains (String.ofList (normLabel f.label)) = true → (k, normLabel f.label) ∈ candidates := fun k L hL hm => by
    have := hL _ (List.contains_iff_mem.mp hm)
    rwa [String.toList_ofList] at this
  obtain ⟨h0, h1, h2, h3, h4, h6⟩ := cand_table.1
  have hm := label_ok hfo
  simp only [labelOk, Bool.and_eq_true] at hm
  replace hm := hm.2
  rcases kind_cases f hfo with hk | hk | hk | hk | hk | hk | hk <;> rw [hk] at hm ⊢ <;> simp only [] at hm
  · exact Or.inr (of_names 0 _ h0 hm)
  · exact Or.inr (of_names 1 _ h1 hm)
  · rw [eq_of_beq hm]; exact Or.inr h2
  · rw [eq_of_beq hm]; exact Or.inr h3
  · exact Or.inr (of_names 4 _ h4 hm)
  · exact Or.inl rfl
  · rw [eq_of_beq hm]; exact Or.inr h6

theorem kind5_free (f : Field) (hfo : fieldOk f = true) (hk : f.kind = 5) :
    knownLabels.contains (String.ofList (normLabel f.label)) = false := by
  have hlab := label_ok hfo
  simp only [labelOk, hk, Bool.and_eq_true, Bool.not_eq_true'] at hlab
  exact hlab.2.1.1

theorem class_label (p : Dep5.Para) (K : Kind) (hp : paraOk p = true) (hK : paraKind p = some K) (f : Field) (hf : f ∈ p) :
    classOK K (f.kind, normLabel f.label) = true := by
  simp only [paraOk, Bool.and_eq_true, hK] at hp
  have hclass := hp.2
  cases K with
  | header =>
    have := List.all_eq_true.mp hclass f hf
    rw [contains_ofList] at this
    simpa [classOK] using this
  | files =>
    have := List.all_eq_true.mp (Bool.and_eq_true_iff.mp hclass).2 f hf
    rw [contains_ofList] at this
    exact this
  | license =>
    have := List.all_eq_true.mp hclass f hf
    rw [contains_ofList] at this
    exact this
  | catchall => cases hclass

theorem known_allowed (p : Dep5.Para) (K : Kind) (hp : paraOk p = true) (hK : paraKind p = some K) (f : Field) (hf : f ∈ p)
    (h5 : f.kind ≠ 5) : (f.kind, normLabel f.label) ∈ allowed K :=
  (cand_table.2 _ ((cand_of f (paraOk_fields hp f hf)).resolve_left h5)).2 K (kind_mem K (kind_ne_catchall hp hK))
    (class_label p K hp hK f hf)

/-- the typed names are reserved: no unknown field bears one -/
theorem extra_not_known (K : Kind) (hK : K ≠ .catchall) (f : Field) (hf : fieldOk f = true) (hk : f.kind = 5) :
    ((typedFields K).map (·.1)).contains (fieldKey f) = false := by
  refine Bool.eq_false_iff.mpr fun hc => ?_
  obtain ⟨nc, hnc, hkey⟩ := List.mem_map.mp (List.contains_iff_mem.mp hc)
  have hres := ((typed_table K (kind_mem K hK)).2.1 nc hnc).2.1
  rw [hkey, fieldKey, replace_inverse _ (label_no_us f hf), kind5_free f hf hk] at hres
  cases hres

/-! ### distinct names -/

/-- the fold of `Dep5.distinct`: the names in order of first occurrence, after `acc` -/
def ddk (acc : List Str) (ns : List Str) : List Str :=
  ns.foldl (fun acc n => if acc.contains n then acc else acc ++ [n]) acc

theorem ddk_length_le (ns acc : List Str) : (ddk acc ns).length ≤ acc.length + ns.length := by
  induction ns generalizing acc with
  | nil => simp [ddk]
  | cons n ns ih =>
    simp only [ddk, List.foldl_cons, List.length_cons]
    split
    · have := ih acc; simp only [ddk] at this; omega
    · have := ih (acc ++ [n]); simp only [ddk, List.length_append, List.length_singleton] at this; omega

theorem ddk_nodup (ns acc : List Str) (h : (ddk acc ns).length = acc.length + ns.length) :
    (∀ n ∈ ns, n ∉ acc) ∧ ns.Nodup := by
  induction ns generalizing acc with
  | nil => exact ⟨by simp, List.nodup_nil⟩
  | cons n ns ih =>
    simp only [ddk, List.foldl_cons, List.length_cons] at h
    have hnot : acc.contains n = false := by
      cases hc : acc.contains n with
      | false => rfl
      | true =>
        rw [hc] at h
        simp only [if_true] at h
        have := ddk_length_le ns acc
        simp only [ddk] at this
        omega
    rw [hnot] at h
    simp only [Bool.false_eq_true, if_false] at h
    obtain ⟨h1, h2⟩ := ih (acc ++ [n]) (by simp only [ddk, List.length_append, List.length_singleton]; omega)
    have hn : n ∉ acc := by
      intro hm; have := List.contains_iff_mem.mpr hm; rw [hnot] at this; cases this
    refine ⟨?_, ?_⟩
    · intro x hx
      rcases List.mem_cons.mp hx with rfl | hx
      · exact hn
      · intro hm; exact h1 x hx (List.mem_append_left _ hm)
    · rw [List.nodup_cons]
      refine ⟨?_, h2⟩
      intro hm
      exact h1 n hm (by simp)

theorem keys_nodup (p : Dep5.Para) (hp : paraOk p = true) : (p.map fieldKey).Nodup := by
  simp only [paraOk, Bool.and_eq_true, List.all_eq_true] at hp
  obtain ⟨⟨⟨_, hfields⟩, hdist⟩, _⟩ := hp
  simp only [distinct, beq_iff_eq] at hdist
  have hn : (p.map fun f => normLabel f.label).Nodup := by
    have := ddk_nodup (p.map fun f => normLabel f.label) [] (by simp only [ddk, List.length_nil, Nat.zero_add]; exact hdist.symm)
    exact this.2
  -- the keys respell `-` as `_`, which is injective on names without underscores
  have : p.map fieldKey = (p.map fun f => normLabel f.label).map (replaceChar '-' '_') := by
    simp [List.map_map, fieldKey, Function.comp]
  rw [this]
  refine List.pairwise_map.mpr (hn.imp_of_mem fun {a b} ha hb hab e => hab ?_)
  obtain ⟨fa, hfa, rfl⟩ := List.mem_map.mp ha
  obtain ⟨fb, hfb, rfl⟩ := List.mem_map.mp hb
  rw [← replace_inverse _ (label_no_us fa (hfields fa hfa)), ← replace_inverse _ (label_no_us fb (hfields fb hfb)), e]

/-! ### one paragraph -/

theorem known_iff (p : Dep5.Para) (K : Kind) (hp : paraOk p = true) (hK : paraKind p = some K)
    (f : Field) (hf : f ∈ p) : ((typedFields K).map (·.1)).contains (fieldKey f) = (f.kind != 5) := by
  have hKne := kind_ne_catchall hp hK
  by_cases h5 : f.kind = 5
  · rw [extra_not_known K hKne f (paraOk_fields hp f hf) h5, h5]; rfl
  · rw [show (f.kind != 5) = true by simpa using h5]
    exact (allowed_table K (kind_mem K hKne) _ (known_allowed p K hp hK f hf h5)).2

/-- what `from_fields` makes of one paragraph of the grammar -/
def paraOf (p : Dep5.Para) (K : Kind) : PObs :=
  ⟨K, (typedFields K).map (fun nc => (nc.1, fromValue nc.2
        (((p.filter (·.kind != 5)).map fun f => (fieldKey f, lstrip (rawVal f))).lookup nc.1))),
      (p.filter (·.kind == 5)).map (fun f => (fieldKey f, XV.s (expectedExtra f)))⟩

/-- **one paragraph of the grammar**: `from_fields` returns its typed fields and its extra data -/
theorem para_typed (p : Dep5.Para) (K : Kind) (hp : paraOk p = true) (hK : paraKind p = some K)
    (g : List Fld) (hall : All2 SpellsF p g) :
    ∃ q, fromFields K g = .ok q ∧ q.kind = K ∧ q.fields = (paraOf p K).fields ∧ q.extra = (paraOf p K).extra := by
  have hfields := paraOk_fields hp
  obtain ⟨a', ha, hknown, hextra⟩ := addFields_para ((typedFields K).map (·.1)) p g hall ⟨[], [], [], [], 1⟩
    (by simp) (by simp) (fun f hf => rawVal_ne f (hfields f hf)) (by simp) (keys_nodup p hp)
  refine ⟨{ kind := K, fields := (typedFields K).map fun nc => (nc.1, fromValue nc.2 (a'.known.lookup nc.1)),
             extra := a'.extra, lines := a'.lines }, ?_, rfl, ?_, ?_⟩
  · rw [Proofs.CopyrightTotal.fromFields_eq, ha]; rfl
  · simp only [hknown, List.nil_append]
    rw [List.filter_congr (q := fun f => f.kind != 5) (known_iff p K hp hK)]
    rfl
  · simp only [hextra, List.nil_append]
    rw [List.filter_congr (q := fun f => f.kind == 5) fun f hf => by
      rw [known_iff p K hp hK f hf, bne, Bool.not_not]]
    apply List.map_congr_left
    intro f hf
    have hf' := List.mem_filter.mp hf
    have hk : f.kind = 5 := by simpa using hf'.2
    rw [← extra_typed f hk (hfields f hf'.1)]
    rfl

/-- every known field of the paragraph has its typed value -/
theorem field_lookup (p : Dep5.Para) (K : Kind) (hp : paraOk p = true) (hK : paraKind p = some K) (f : Field) (hf : f ∈ p)
    (h5 : f.kind ≠ 5) : (paraOf p K).fields.lookup (fieldKey f) = some (expectedFV f) := by
  have hndK : (((p.filter (·.kind != 5)).map fun f => (fieldKey f, lstrip (rawVal f))).map (·.1)).Nodup := by
    rw [List.map_map]
    exact (keys_nodup p hp).sublist (List.filter_sublist.map _)
  have ht : (typedFields K).lookup (fieldKey f) = some (clsOf f.kind) :=
    (allowed_table K (paraKind_mem hp hK) _ (known_allowed p K hp hK f hf h5)).1
  have hmem : f ∈ p.filter (·.kind != 5) := List.mem_filter.mpr ⟨hf, by simpa using h5⟩
  show ((typedFields K).map fun nc => (nc.1, fromValue nc.2 _)).lookup _ = _
  rw [lookup_map_val (typedFields K) (fun n c => fromValue c
      (((p.filter (·.kind != 5)).map fun f => (fieldKey f, lstrip (rawVal f))).lookup n)), ht, Option.map_some,
    lookup_of_mem _ hndK _ (List.mem_map_of_mem (f := fun f => (fieldKey f, lstrip (rawVal f))) hmem),
    typed_value f (paraOk_fields hp f hf) h5]

/-- the observation of such a paragraph satisfies the paragraph clause of the property -/
theorem para_matches (p : Dep5.Para) (K : Kind) (hp : paraOk p = true) (hK : paraKind p = some K) :
    paraMatches p ⟨K,
      (typedFields K).map (fun nc => (nc.1, fromValue nc.2
        (((p.filter (·.kind != 5)).map fun f => (fieldKey f, lstrip (rawVal f))).lookup nc.1))),
      (p.filter (·.kind == 5)).map (fun f => (fieldKey f, XV.s (expectedExtra f)))⟩ = true := by
  unfold paraMatches
  simp only [Bool.and_eq_true, List.all_eq_true, beq_iff_eq]
  refine ⟨⟨⟨by rw [hK], fun f hf => ?_⟩, ?_⟩, trivial⟩
  · have hf' := List.mem_filter.mp hf
    exact field_lookup p K hp hK f hf'.1 (by simpa using hf'.2)
  · -- every typed field is one of the document's, or holds the value of an absent field
    intro nf hnf
    obtain ⟨nc, hnc, rfl⟩ := List.mem_map.mp hnf
    simp only [Bool.or_eq_true, List.any_eq_true, Bool.and_eq_true, beq_iff_eq]
    cases hkn : ((p.filter (·.kind != 5)).map fun f => (fieldKey f, lstrip (rawVal f))).lookup nc.1 with
    | none =>
      right
      rw [lookup_of_mem _ (typed_nodup K (paraKind_mem hp hK)) nc hnc]; rfl
    | some v =>
      left
      have hm := (lookup_isSome_iff _ _).mp (by rw [hkn]; rfl)
      simp only [List.map_map, List.mem_map, Function.comp] at hm
      obtain ⟨f, hf, hkey⟩ := hm
      have hf' := List.mem_filter.mp hf
      exact ⟨f, hf'.1, hf'.2, hkey⟩

/-! ### the recovery rewrites on a document without catch-all paragraphs -/

open Props.C07 in
theorem mergeUnknown_id (ps : List Model.Copyright.Para) (h : ∀ q ∈ ps, q.kind ≠ Kind.catchall) : mergeUnknown ps = .ok ps := by
  rw [mergeUnknown_eq, mapExcept_id mergeGroup _ fun g hg => ?_]
  · exact congrArg Except.ok (groupByKind_spec ps).1
  · cases hk : keepGroup g with
    | true => exact mergeGroup_keep hk
    | false =>
      obtain ⟨p, rest, rfl, hp⟩ := keepGroup_false hk
      exact absurd hp (h p ((groupByKind_props ps _ hg).1 p List.mem_cons_self))

open Props.C07 in
theorem foldLoop_id (ps : List Model.Copyright.Para) (h : ∀ q ∈ ps, q.kind ≠ Kind.catchall) : foldLoop ps false = .ok (ps.dropLast, false) := by
  induction ps with
  | nil => rfl
  | cons p1 rest ih =>
    cases rest with
    | nil => rfl
    | cons p2 rest2 =>
      have hc : foldCond p1 p2 = false := Bool.eq_false_iff.mpr fun hc => h p2 (by simp) (foldCond_inv hc).2.2.1
      rw [foldLoop_keep hc, ih (fun q hq => h q (List.mem_cons_of_mem _ hq))]; rfl

theorem foldLicense_id (ps : List Model.Copyright.Para) (h : ∀ q ∈ ps, q.kind ≠ Kind.catchall) : foldLicense ps = .ok ps := by
  by_cases hl : ps.length ≤ 2
  · exact Props.C07.foldLicense_short hl
  · rw [Props.C07.foldLicense_of_loop (by omega) (foldLoop_id ps h)]
    have hne : ps ≠ [] := fun e => by rw [e] at hl; simp at hl
    rw [List.getLast?_eq_some_getLast hne]
    exact congrArg _ (List.dropLast_concat_getLast hne)

/-! ### classification, validity, the whole document -/

theorem hasLabel_eq (p : Dep5.Para) (s : String) : hasLabel p s = (p.map fun f => normLabel f.label).contains s.toList := by
  unfold hasLabel
  induction p with
  | nil => rfl
  | cons f fs ih =>
    rw [List.any_cons, List.map_cons, List.contains_cons, ih, BEq.comm]

theorem no_format_spec (p : Dep5.Para) (hp : paraOk p = true) :
    (p.map fun f => normLabel f.label).contains "format-specification".toList = false := by
  refine Bool.eq_false_iff.mpr fun hc => ?_
  obtain ⟨f, hf, e⟩ := List.mem_map.mp (List.contains_iff_mem.mp hc)
  -- a reserved name: no unknown field bears it, and it names no known field
  rcases cand_of f (paraOk_fields hp f hf) with hk | hc'
  · have := kind5_free f (paraOk_fields hp f hf) hk
    rw [e, String.ofList_toList] at this
    revert this; decide +kernel
  · exact (cand_table.2 _ hc').1 e

theorem classify_eq (p : Dep5.Para) (K : Kind) (hp : paraOk p = true) (hK : paraKind p = some K) (g : List Fld)
    (hall : All2 SpellsF p g) : classify g = K := by
  unfold classify
  simp only [hall.names, no_format_spec p hp, Bool.or_false]
  unfold paraKind at hK
  simp only [hasLabel_eq] at hK
  by_cases h1 : (p.map fun f => normLabel f.label).contains "format".toList = true
  · simp only [h1, if_true] at hK ⊢; cases hK; rfl
  · simp only [h1] at hK ⊢
    by_cases h2 : (p.map fun f => normLabel f.label).contains "files".toList = true
    · simp only [h2, if_true] at hK ⊢; cases hK; rfl
    · simp only [h2] at hK ⊢
      by_cases h3 : (p.map fun f => normLabel f.label).contains "license".toList = true
      · simp only [h3, if_true] at hK ⊢; cases hK; rfl
      · simp only [h3] at hK; cases hK

theorem has_field (p : Dep5.Para) (s : String) (h : hasLabel p s = true) : ∃ f ∈ p, normLabel f.label = s.toList := by
  simp only [hasLabel, List.any_eq_true, beq_iff_eq] at h
  exact h

theorem kind_of_label (f : Field) (hfo : fieldOk f = true) {s : String} {k : Nat} (hl : normLabel f.label = s.toList)
    (hs : knownLabels.contains s = true) (hk : ∀ kn ∈ candidates, kn.2 = s.toList → kn.1 = k) : f.kind = k := by
  rcases cand_of f hfo with h5 | hc
  · have := kind5_free f hfo h5
    rw [hl, String.ofList_toList, hs] at this
    cases this
  · exact hk _ hc hl

/-- the names a files paragraph must bear: each reserved, spelt the same as an attribute, and of one kind -/
theorem core_table : ∀ ks ∈ [(1, "files"), (2, "copyright"), (3, "license")],
    ks.1 ≠ 5 ∧ knownLabels.contains ks.2 = true ∧ replaceChar '-' '_' ks.2.toList = ks.2.toList ∧
    ∀ kn ∈ candidates, kn.2 = ks.2.toList → kn.1 = ks.1 := by
  decide +kernel

theorem getField_core (p : Dep5.Para) (K : Kind) (hp : paraOk p = true) (hK : paraKind p = some K) (q : Model.Copyright.Para)
    (hqf : q.fields = (paraOf p K).fields) (k : Nat) (s : String) (hks : (k, s) ∈ [(1, "files"), (2, "copyright"), (3, "license")])
    (h : hasLabel p s = true) : ∃ f, fieldOk f = true ∧ f.kind = k ∧ getField q s = some (expectedFV f) := by
  obtain ⟨h5, hs, hr, hk⟩ := core_table (k, s) hks
  obtain ⟨f, hf, hl⟩ := has_field p s h
  have hfo := paraOk_fields hp f hf
  have hkind : f.kind = k := kind_of_label f hfo hl hs hk
  refine ⟨f, hfo, hkind, ?_⟩
  rw [getField, hqf, ← hr, ← hl]
  exact field_lookup p K hp hK f hf (hkind ▸ h5)

theorem license_name_ne (p : Dep5.Para) (K : Kind) (hp : paraOk p = true) (hK : paraKind p = some K) (q : Model.Copyright.Para)
    (hqf : q.fields = (paraOf p K).fields) (h : hasLabel p "license" = true) : (licenseOf q).1.isEmpty = false := by
  obtain ⟨f, hfo, hk, hg⟩ := getField_core p K hp hK q hqf 3 "license" (by simp) h
  simp only [licenseOf, hg, expectedFV, hk]
  exact List.isEmpty_eq_false_iff.mpr (first_ne f hfo (by omega))

/-- a files paragraph of the grammar is valid: it has patterns, statements and a license name -/
theorem files_valid (p : Dep5.Para) (hp : paraOk p = true) (hK : paraKind p = some .files) (q : Model.Copyright.Para)
    (hq : q.kind = .files) (hqf : q.fields = (paraOf p .files).fields) : paraIsValid q false = true := by
  have hlabels : hasLabel p "files" = true ∧ hasLabel p "copyright" = true ∧ hasLabel p "license" = true := by
    have hp' := hp
    simp only [paraOk, Bool.and_eq_true, hK] at hp'
    refine ⟨?_, hp'.2.1.1, hp'.2.1.2⟩
    unfold paraKind at hK
    split at hK
    · cases hK
    · split at hK
      · assumption
      · split at hK <;> cases hK
  obtain ⟨ff, _, kf, lf⟩ := getField_core p .files hp hK q hqf 1 "files" (by simp) hlabels.1
  obtain ⟨fc, _, kc, lc⟩ := getField_core p .files hp hK q hqf 2 "copyright" (by simp) hlabels.2.1
  have hne1 : (splitChar ' ' ff.first ++ ff.conts.flatMap fun l => splitChar ' ' (itemText l)).isEmpty = false := by
    cases hs : splitChar ' ' ff.first with
    | nil => exact absurd hs (Py.splitChar_ne_nil ' ' ff.first)
    | cons a as => rfl
  unfold paraIsValid
  simp only [hq, wsValues, statementsOf, lf, lc, expectedFV, kf, kc, hne1, license_name_ne p .files hp hK q hqf hlabels.2.2,
    Bool.not_false, Bool.true_or, Bool.and_true, List.isEmpty_cons, List.map_cons]

theorem paraKind_some (p : Dep5.Para) (hp : paraOk p = true) : ∃ K, paraKind p = some K ∧ K ≠ Kind.catchall := by
  cases hK : paraKind p with
  | none =>
    simp only [paraOk, Bool.and_eq_true, hK] at hp
    exact absurd hp.2 (by simp)
  | some K => exact ⟨K, rfl, kind_ne_catchall hp hK⟩

/-- a paragraph of the copyright object spells a paragraph of the document -/
def SpellsP (p : Dep5.Para) (q : Model.Copyright.Para) : Prop :=
  paraOk p = true ∧ ∃ K, paraKind p = some K ∧ K ≠ Kind.catchall ∧ q.kind = K ∧ q.fields = (paraOf p K).fields ∧ q.extra = (paraOf p K).extra

theorem para_spells (p : Dep5.Para) (hp : paraOk p = true) (g : List Fld) (hpg : All2 SpellsF p g) :
    SpellsP p (Props.C07.builtPara g) := by
  obtain ⟨K, hK, hKne⟩ := paraKind_some p hp
  obtain ⟨q, hq, hqk, hqf, hqe⟩ := para_typed p K hp hK g hpg
  rw [← classify_eq p K hp hK g hpg] at hq
  exact Props.C07.builtPara_of_ok hq ▸ ⟨hp, K, hK, hKne, hqk, hqf, hqe⟩

theorem mapExcept_groups (paras : List Dep5.Para) (hp : ∀ p ∈ paras, paraOk p = true) (gs : List (List Fld))
    (h : All2 (fun p g => All2 SpellsF p g) paras gs) :
    ∃ ps, Model.Copyright.mapExcept (fun g => fromFields (classify g) g) gs = .ok ps ∧ All2 SpellsP paras ps := by
  refine ⟨_, Props.C07.firstStage_eq gs, ?_⟩
  induction h with
  | nil => exact All2.nil
  | cons hpg _ ih =>
    exact All2.cons (para_spells _ (hp _ List.mem_cons_self) _ hpg) (ih fun p hm => hp p (List.mem_cons_of_mem _ hm))

theorem spellsP_kinds {paras : List Dep5.Para} {ps : List Model.Copyright.Para} (h : All2 SpellsP paras ps) :
    (∀ q ∈ ps, q.kind ≠ Kind.catchall) ∧
    (ps.filter (·.kind = Kind.files)).isEmpty = !(paras.any fun p => paraKind p == some Kind.files) ∧
    (∀ q ∈ ps.filter (·.kind = Kind.files), paraIsValid q false = true) := by
  refine ⟨fun q hq => ?_, ?_, fun q hq => ?_⟩
  · obtain ⟨p, _, _, K, _, hKne, hqk, _⟩ := h.exists_left q hq
    exact hqk ▸ hKne
  · induction h with
    | nil => rfl
    | cons hpq _ ih =>
      obtain ⟨_, K, hK, _, hqk, _⟩ := hpq
      rw [List.filter_cons, List.any_cons, hK, Bool.not_or, ← ih, hqk]
      cases K <;> rfl
  · obtain ⟨hq, hf⟩ := List.mem_filter.mp hq
    obtain ⟨p, _, hpo, K, hK, _, hqk, hqf, _⟩ := h.exists_left q hq
    have hf : q.kind = Kind.files := of_decide_eq_true hf
    cases hqk.symm.trans hf
    exact files_valid p hpo hK q hf hqf

/-- no catch-all paragraph among them, so the two recovery rewrites leave them alone -/
theorem fromFieldsGroups_spells (paras : List Dep5.Para) (hp : ∀ p ∈ paras, paraOk p = true) (gs : List (List Fld))
    (h : All2 (fun p g => All2 SpellsF p g) paras gs) : ∃ ps, fromFieldsGroups gs = .ok ps ∧ All2 SpellsP paras ps := by
  obtain ⟨ps, hps, hall⟩ := mapExcept_groups paras hp gs h
  have hk := (spellsP_kinds hall).1
  exact ⟨ps, by rw [Props.C07.fromFieldsGroups_of hps (mergeUnknown_id ps hk), foldLicense_id ps hk], hall⟩

theorem head_kind {paras : List Dep5.Para} {ps : List Model.Copyright.Para} (h : All2 SpellsP paras ps)
    (hhead : (match paras.head? with | some p => paraKind p == some Kind.header | none => false) = true) :
    ∃ first rest, ps = first :: rest ∧ first.kind = Kind.header := by
  cases h with
  | nil => cases hhead
  | @cons p q _ qs hpq _ =>
    obtain ⟨_, K, hK, _, hqk, _, _⟩ := hpq
    simp only [List.head?_cons, hK, beq_iff_eq] at hhead
    exact ⟨q, qs, rfl, hqk.trans (Option.some.inj hhead)⟩

/-- without `strict`, a document that starts with a header and whose files paragraphs are valid is valid exactly when it
has a files paragraph -/
theorem docIsValid_header (first : Model.Copyright.Para) (rest : List Model.Copyright.Para) (hf : first.kind = Kind.header)
    (hv : ∀ q ∈ (first :: rest).filter (·.kind = Kind.files), paraIsValid q false = true) :
    docIsValid (first :: rest) false = !((first :: rest).filter (·.kind = Kind.files)).isEmpty := by
  have hhdr : ((first :: rest).filter (·.kind = Kind.header)).isEmpty = false := by
    rw [List.filter_cons, hf]; rfl
  simp only [docIsValid, hhdr, List.all_eq_true.mpr hv, Bool.not_false, Bool.true_or, Bool.true_and, Bool.and_true,
    Bool.false_eq_true, if_false]
  cases ((first :: rest).filter (·.kind = Kind.files)).isEmpty <;> simp

/-- the observation the check makes of a result of `from_fields_groups` -/
def obsOf (r : Except PyExc (List Model.Copyright.Para)) : Props.C09.Obs :=
  match r with
  | .error e => .error e
  | .ok ps => .ok { paras := ps.map fun p => ⟨p.kind, p.fields, p.extra⟩, valid := docIsValid ps false }

/-- **C09 from the tracked fields on**: for every well-formed DEP-5 document and any field groups that spell its paragraphs,
the copyright object has one paragraph per document paragraph, of the document's class, with exactly the document's typed
fields and extra data; it is valid exactly when the document has a files paragraph -/
theorem sound_from_groups (d : Doc) (gs : List (List Fld)) (hgs : All2 (fun p g => All2 SpellsF p g) d.paras gs) :
    holdsOn d (obsOf (fromFieldsGroups gs)) = true := by
  unfold holdsOn
  cases hw : wf d with
  | false => rfl
  | true =>
    simp only [Bool.not_true, Bool.false_or]
    have hw' := hw
    simp only [wf, Bool.and_eq_true, List.all_eq_true] at hw'
    obtain ⟨⟨⟨⟨⟨⟨_, hparas⟩, hhead⟩, _⟩, _⟩, _⟩, _⟩ := hw'
    obtain ⟨ps, hres, hall⟩ := fromFieldsGroups_spells d.paras hparas gs hgs
    obtain ⟨_, hk2, hk3⟩ := spellsP_kinds hall
    rw [hres]
    simp only [obsOf, Bool.and_eq_true, beq_iff_eq, List.length_map]
    refine ⟨⟨hall.length_eq, hall.zip_all _ _ fun p q hpq => ?_⟩, ?_⟩
    · obtain ⟨hpo, K, hK, _, hqk, hqf, hqe⟩ := hpq
      rw [hqk, hqf, hqe]
      exact para_matches p K hpo hK
    · -- a header is always there, so the object is valid exactly when it has a files paragraph
      obtain ⟨first, rest, rfl, hfirst⟩ := head_kind hall hhead
      rw [docIsValid_header first rest hfirst hk3, hk2, Bool.not_not]

end Props.C09G
