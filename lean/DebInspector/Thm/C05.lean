/-
C05 — property theorems: clause 1 (line numbers) from a sublist argument, and `sound`: every clause,
for every text, by an invariant over the generator loop (accumulated output + abstract open paragraph).
-/
import DebInspector.Props.C05
import DebInspector.Proofs.Deb822

namespace Props.C05
open Py Model.Deb822 Proofs.Deb822

theorem allNums_model (t : Str) : allNums (model t) = nums (parse t) := by
  simp [allNums, model, obsOf, nums, List.flatMap_map, List.map_map]
  rfl

/-- **for every text** the reported line numbers, in result order, are a sublist of `1, 2, …, n`
(`n` = number of source lines): each source line is reported at most once, under its true number -/
theorem numbers_sublist (t : Str) :
    (allNums (model t)).Sublist (List.range' 1 (srcLines t).length) := by
  rw [allNums_model]
  have := nums_go none (linesFromText t)
  simp only [stNums, List.nil_append, linesFromText, numberFrom_nums] at this
  exact this

theorem numbers_increasing (t : Str) :
    (allNums (model t)).Pairwise (· < ·) ∧ ∀ n ∈ allNums (model t), 1 ≤ n ∧ n ≤ (srcLines t).length := by
  have hs := numbers_sublist t
  refine ⟨List.Pairwise.sublist hs (List.pairwise_lt_range'), ?_⟩
  intro n hn
  have := hs.subset hn
  simp only [List.mem_range'_1] at this
  omega

/-! ### raw fields as the loop builds them -/

/-- the `cnt` lines after line `n`, trimmed on the right as `addLine` stores them -/
def conts (src : List Str) (n cnt : Nat) : List NL :=
  (List.range cnt).map fun i => ⟨n + 1 + i, rstrip (lineAt src (n + 1 + i))⟩

/-- the field declared at line `n`, with the `cnt` lines after it as continuation lines -/
def mkField (src : List Str) (n cnt : Nat) : Fld :=
  ⟨normName (lineAt src n), ⟨n, declValue (lineAt src n)⟩ :: conts src n cnt⟩

/-- consecutive fields from line `s` on, the i-th with `cnts[i]` continuation lines -/
def mkFields (src : List Str) : Nat → List Nat → List Fld
  | _, [] => []
  | s, c :: cs => mkField src s c :: mkFields src (s + c + 1) cs

/-- the number of source lines that fields with these continuation counts take -/
def total : List Nat → Nat
  | [] => 0
  | c :: cs => c + 1 + total cs

/-- each field of `mkFields src s cnts` starts at a declaration line -/
def declStarts (src : List Str) : Nat → List Nat → Prop
  | _, [] => True
  | s, c :: cs => isDecl (lineAt src s) = true ∧ declStarts src (s + c + 1) cs

theorem total_append (a b : List Nat) : total (a ++ b) = total a + total b := by
  induction a with
  | nil => simp [total]
  | cons c cs ih => simp [total, ih]; omega

theorem total_snoc (init : List Nat) (c : Nat) : total (init ++ [c]) = total init + c + 1 := by
  rw [total_append]; simp [total]; omega

theorem mkFields_append (src : List Str) (s : Nat) (a b : List Nat) :
    mkFields src s (a ++ b) = mkFields src s a ++ mkFields src (s + total a) b := by
  induction a generalizing s with
  | nil => simp [mkFields, total]
  | cons c cs ih =>
    simp only [List.cons_append, mkFields, total, ih]
    congr 3; omega

theorem mkFields_snoc (src : List Str) (s : Nat) (init : List Nat) (c : Nat) :
    mkFields src s (init ++ [c]) = mkFields src s init ++ [mkField src (s + total init) c] := by
  rw [mkFields_append]; rfl

theorem declStarts_append (src : List Str) (s : Nat) (a b : List Nat) :
    declStarts src s (a ++ b) ↔ declStarts src s a ∧ declStarts src (s + total a) b := by
  induction a generalizing s with
  | nil => simp [declStarts, total]
  | cons c cs ih =>
    simp only [List.cons_append, declStarts, total, ih, and_assoc]
    have : s + c + 1 + total cs = s + (c + 1 + total cs) := by omega
    rw [this]

theorem declStarts_last_irrel (src : List Str) (s : Nat) (init : List Nat) (c c' : Nat) :
    declStarts src s (init ++ [c]) → declStarts src s (init ++ [c']) := by
  rw [declStarts_append, declStarts_append]
  simp [declStarts]

theorem conts_succ (src : List Str) (n cnt : Nat) :
    conts src n (cnt + 1) = conts src n cnt ++ [⟨n + 1 + cnt, rstrip (lineAt src (n + 1 + cnt))⟩] := by
  simp [conts, List.range_succ]

theorem conts_nums (src : List Str) (n cnt : Nat) : (conts src n cnt).map (·.num) = List.range' (n + 1) cnt := by
  induction cnt with
  | zero => simp [conts]
  | succ c ih => rw [conts_succ, List.map_append, ih, List.range'_concat]; simp

theorem fromLine_eq (src : List Str) (k : Nat) : fromLine ⟨k, lineAt src k⟩ = mkField src k 0 := by
  simp [fromLine, mkField, conts, normName, declValue]

theorem addLine_mkField (src : List Str) (done : List Fld) (n cnt k : Nat) (hk : k = n + 1 + cnt) :
    addLine (done, mkField src n cnt) ⟨k, rstrip (lineAt src k)⟩ = (done, mkField src n (cnt + 1)) := by
  subst hk
  simp [addLine, mkField, conts_succ]

theorem mkField_nums (src : List Str) (n cnt : Nat) :
    (mkField src n cnt).lines.map (·.num) = List.range' n (cnt + 1) := by
  simp only [mkField, List.map_cons, conts_nums]
  rw [List.range'_succ]

/-! ### consecutive numbers -/

theorem consecutive_prefix (xs ys : List Nat) (h : consecutive (xs ++ ys) = true) : consecutive xs = true := by
  induction xs with
  | nil => rfl
  | cons a as ih =>
    cases as with
    | nil => rfl
    | cons b bs =>
      simp only [List.cons_append, consecutive, Bool.and_eq_true] at h ⊢
      exact ⟨h.1, ih h.2⟩

theorem consecutive_range' (n m : Nat) : consecutive (List.range' n m) = true := by
  induction m generalizing n with
  | zero => rfl
  | succ m ih =>
    cases m with
    | zero => rfl
    | succ m =>
      have := ih (n + 1)
      simp only [List.range'_succ] at this ⊢
      simp [consecutive, this]

/-! ### one cleaned field -/

def obsF (f : Fld) : FieldObs := (f.name, f.lines.map fun l => (l.num, l.val))

/-- a line that clause (4) allows to go unreported: blank, or a declaration without value -/
def droppable (src : List Str) (n : Nat) : Prop :=
  isBlank (lineAt src n) = true ∨ (isDecl (lineAt src n) = true ∧ (declValue (lineAt src n)).isEmpty = true)

def cleanedLines (src : List Str) (n cnt : Nat) : List NL := rstripLines (mkField src n cnt).lines

theorem cleaned_ownText (src : List Str) (n cnt : Nat) (hd : isDecl (lineAt src n) = true) :
    fieldOwnText src (obsF ⟨normName (lineAt src n), cleanedLines src n cnt⟩) = true := by
  obtain ⟨t, ht⟩ := rstripLines_prefix (mkField src n cnt).lines
  unfold cleanedLines obsF
  cases hc : rstripLines (mkField src n cnt).lines with
  | nil => rfl
  | cons a as =>
    rw [hc] at ht
    simp only [mkField, List.cons_append, List.cons.injEq] at ht
    obtain ⟨ha, has⟩ := ht
    subst ha
    simp only [List.map_cons, fieldOwnText, declaration, hd, Bool.true_and, beq_self_eq_true, List.all_eq_true,
      List.mem_map]
    rintro ⟨m, w⟩ ⟨l, hl, hlw⟩
    have : l ∈ conts src n cnt := by rw [has]; exact List.mem_append_left _ hl
    simp only [conts, List.mem_map, List.mem_range] at this
    obtain ⟨i, _, rfl⟩ := this
    simp only [Prod.mk.injEq] at hlw
    obtain ⟨rfl, rfl⟩ := hlw
    simp

theorem cleaned_consecutive (src : List Str) (n cnt : Nat) :
    consecutive ((cleanedLines src n cnt).map (·.num)) = true := by
  obtain ⟨t, ht⟩ := rstripLines_prefix (mkField src n cnt).lines
  have h := consecutive_range' n (cnt + 1)
  rw [← mkField_nums src n cnt, ht, List.map_append] at h
  exact consecutive_prefix _ _ h

theorem cleaned_range (src : List Str) (n cnt : Nat) :
    ∀ m ∈ (cleanedLines src n cnt).map (·.num), n ≤ m ∧ m ≤ n + cnt := by
  intro m hm
  have hsub : ((cleanedLines src n cnt).map (·.num)).Sublist ((mkField src n cnt).lines.map (·.num)) :=
    (rstripLines_sublist _).map _
  have := hsub.subset hm
  rw [mkField_nums] at this
  simp only [List.mem_range'_1] at this
  omega

theorem cleaned_cover (src : List Str) (n cnt : Nat) (hd : isDecl (lineAt src n) = true) :
    ∀ m, n ≤ m → m ≤ n + cnt → m ∈ (cleanedLines src n cnt).map (·.num) ∨ droppable src m := by
  intro m h1 h2
  by_cases hm : m = n
  · subst hm
    have hmem : (⟨m, declValue (lineAt src m)⟩ : NL) ∈ (mkField src m cnt).lines := by simp [mkField]
    rcases rstripLines_mem_or_blank _ _ hmem with h | h
    · exact Or.inl (List.mem_map.mpr ⟨_, h, rfl⟩)
    · right; right
      refine ⟨hd, ?_⟩
      have : declValue (lineAt src m) = [] := by
        unfold declValue at h ⊢
        exact strip_blank_nil _ h
      simp [this]
  · obtain ⟨i, rfl⟩ : ∃ i, m = n + 1 + i := ⟨m - n - 1, by omega⟩
    have hi : i < cnt := by omega
    have hmem : (⟨n + 1 + i, rstrip (lineAt src (n + 1 + i))⟩ : NL) ∈ (mkField src n cnt).lines := by
      simp only [mkField, List.mem_cons, conts, List.mem_map, List.mem_range]
      exact Or.inr ⟨i, hi, rfl⟩
    rcases rstripLines_mem_or_blank _ _ hmem with h | h
    · exact Or.inl (List.mem_map.mpr ⟨_, h, rfl⟩)
    · exact Or.inr (Or.inl (isBlank_rstrip_eq _ ▸ h))

/-! ### one cleaned paragraph -/

def obsG (g : List Fld) : List FieldObs := g.map obsF

theorem obsOf_eq (ps : List (List Fld)) : obsOf ps = ps.map obsG := rfl

theorem obsOf_append (a b : List (List Fld)) : obsOf (a ++ b) = obsOf a ++ obsOf b := by
  simp [obsOf]

theorem obsF_nums (f : Fld) : (obsF f).2.map (·.1) = f.lines.map (·.num) := by
  simp [obsF]

theorem paraNums_cons (f : FieldObs) (g : List FieldObs) : paraNums (f :: g) = f.2.map (·.1) ++ paraNums g := by
  simp [paraNums]

theorem paraNums_obsG_cons (f : Fld) (g : List Fld) :
    paraNums (obsG (f :: g)) = f.lines.map (·.num) ++ paraNums (obsG g) := by
  rw [obsG, List.map_cons, paraNums_cons, obsF_nums]; rfl

theorem clean_mkFields_cons (src : List Str) (s c : Nat) (cs : List Nat) :
    clean (mkFields src s (c :: cs)) =
      ⟨normName (lineAt src s), cleanedLines src s c⟩ :: clean (mkFields src (s + c + 1) cs) := by
  simp [clean, mkFields, cleanedLines, mkField]

theorem group_fields (src : List Str) (s : Nat) (cnts : List Nat) (hd : declStarts src s cnts) :
    ∀ f ∈ obsG (clean (mkFields src s cnts)),
      fieldOwnText src f = true ∧ consecutive (f.2.map (·.1)) = true := by
  induction cnts generalizing s with
  | nil => exact fun f hf => nomatch hf
  | cons c cs ih =>
    rw [clean_mkFields_cons, obsG, List.map_cons]
    exact List.forall_mem_cons.mpr
      ⟨⟨cleaned_ownText src s c hd.1, obsF_nums _ ▸ cleaned_consecutive src s c⟩, ih (s + c + 1) hd.2⟩

theorem group_range (src : List Str) (s : Nat) (cnts : List Nat) :
    ∀ m ∈ paraNums (obsG (clean (mkFields src s cnts))), s ≤ m ∧ m < s + total cnts := by
  induction cnts generalizing s with
  | nil => exact fun m hm => nomatch hm
  | cons c cs ih =>
    intro m hm
    rw [clean_mkFields_cons, paraNums_obsG_cons, List.mem_append] at hm
    rw [total]
    rcases hm with hm | hm
    · have := cleaned_range src s c m hm
      omega
    · have := ih (s + c + 1) m hm
      omega

theorem group_cover (src : List Str) (s : Nat) (cnts : List Nat) (hd : declStarts src s cnts) :
    ∀ m, s ≤ m → m < s + total cnts → m ∈ paraNums (obsG (clean (mkFields src s cnts))) ∨ droppable src m := by
  induction cnts generalizing s with
  | nil => intro m h1 h2; rw [total] at h2; omega
  | cons c cs ih =>
    intro m h1 h2
    rw [clean_mkFields_cons, paraNums_obsG_cons, List.mem_append, or_assoc]
    rw [total] at h2
    by_cases hm : m ≤ s + c
    · exact (cleaned_cover src s c hd.1 m h1 hm).imp_right .inr
    · exact .inr (ih (s + c + 1) hd.2 m (by omega) (by omega))

theorem group_nonempty (src : List Str) (s : Nat) (cnts : List Nat) (h : cnts ≠ []) :
    obsG (clean (mkFields src s cnts)) ≠ [] := by
  cases cnts with
  | nil => exact absurd rfl h
  | cons c cs => rw [clean_mkFields_cons]; exact List.cons_ne_nil _ _

/-! ### invariants of the accumulated output -/

/-- what `separated` asks of two adjacent paragraphs (`separated_cons2`) -/
def pairOK (src : List Str) (p q : List FieldObs) : Bool :=
  isSynthetic src p || isSynthetic src q ||
    (match (paraNums p).getLast?, (paraNums q).head? with
     | some a, some b => (List.range (b - a - 1)).any fun k => isBlank (lineAt src (a + 1 + k))
     | _, _ => true)

theorem separated_cons2 (src : List Str) (p q : List FieldObs) (rest : List (List FieldObs)) :
    separated src (p :: q :: rest) = (pairOK src p q && separated src (q :: rest)) := by
  simp only [separated, pairOK]
  rfl

theorem separated_snoc (src : List Str) (xs : List (List FieldObs)) (q : List FieldObs) :
    separated src (xs ++ [q]) =
      (separated src xs && (match xs.getLast? with | none => true | some p => pairOK src p q)) := by
  induction xs with
  | nil => simp [separated]
  | cons a as ih =>
    cases as with
    | nil => simp [separated_cons2, separated]
    | cons b bs =>
      have e1 : (a :: b :: bs) ++ [q] = a :: b :: (bs ++ [q]) := rfl
      rw [e1, separated_cons2, separated_cons2]
      have : b :: (bs ++ [q]) = (b :: bs) ++ [q] := rfl
      rw [this, ih]
      simp [List.getLast?_cons_cons, Bool.and_assoc]

theorem allNums_append (a b : Obs) : allNums (a ++ b) = allNums a ++ allNums b := by
  simp [allNums]

theorem allNums_single (g : List FieldObs) : allNums [g] = paraNums g := by
  simp [allNums, paraNums]

/-- clauses (2), (3) and non-emptiness, for every paragraph of `o` -/
def GroupsOK (src : List Str) (o : Obs) : Prop :=
  ∀ g ∈ o, g ≠ [] ∧ (∀ f ∈ g, consecutive (f.2.map (·.1)) = true) ∧
    (isSynthetic src g = true ∨ ∀ f ∈ g, fieldOwnText src f = true)

/-- the output `o` accounts for the lines below `B`: its paragraphs are in order, separated, numbered below `B`, and
every line `1 ≤ n < B` is reported or droppable -/
def Core (src : List Str) (o : Obs) (B : Nat) : Prop :=
  GroupsOK src o ∧ separated src o = true ∧ (∀ n ∈ allNums o, n < B) ∧
    (∀ n, 1 ≤ n → n < B → n ∈ allNums o ∨ droppable src n)

/-- the last paragraph of `o` is an unparsable line, or a blank line lies between its last line and `B`: whatever
starts at `B` or later is separated from it -/
def PSep (src : List Str) (o : Obs) (B : Nat) : Prop :=
  match o.getLast? with
  | none => True
  | some p => isSynthetic src p = true ∨
      ∀ a, (paraNums p).getLast? = some a → ∃ b, a < b ∧ b < B ∧ isBlank (lineAt src b) = true

theorem core_drop (src : List Str) (o : Obs) (B : Nat) (h : Core src o B) (hd : droppable src B) :
    Core src o (B + 1) := by
  obtain ⟨h1, h2, h3, h4⟩ := h
  refine ⟨h1, h2, fun n hn => Nat.lt_succ_of_lt (h3 n hn), ?_⟩
  intro n hn1 hn2
  by_cases e : n = B
  · subst e; exact Or.inr hd
  · exact h4 n hn1 (by omega)

theorem psep_of_blank (src : List Str) (o : Obs) (B : Nat) (h : Core src o B)
    (hb : isBlank (lineAt src B) = true) : PSep src o (B + 1) := by
  unfold PSep
  cases hl : o.getLast? with
  | none => trivial
  | some p =>
    right; intro a ha
    have : a ∈ allNums o := List.mem_flatMap.mpr ⟨p, List.mem_of_getLast? hl, List.mem_of_getLast? ha⟩
    exact ⟨B, h.2.2.1 a this, by omega, hb⟩

theorem pairOK_of_psep (src : List Str) (p q : List FieldObs) (s : Nat)
    (hp : isSynthetic src p = true ∨
      ∀ a, (paraNums p).getLast? = some a → ∃ b, a < b ∧ b < s ∧ isBlank (lineAt src b) = true)
    (hq : ∀ m ∈ paraNums q, s ≤ m) : pairOK src p q = true := by
  rw [pairOK]
  rcases hp with hp | hp
  · rw [hp]; rfl
  · cases ha : (paraNums p).getLast? with
    | none => simp
    | some a =>
      cases hb : (paraNums q).head? with
      | none => simp
      | some b' =>
        -- the blank line `b` lies strictly between the last line of `p` and the first line of `q`
        obtain ⟨b, h1, h2, h3⟩ := hp a ha
        have hb' : s ≤ b' := hq b' (List.mem_of_head? hb)
        have : (List.range (b' - a - 1)).any (fun k => isBlank (lineAt src (a + 1 + k))) = true :=
          List.any_eq_true.mpr ⟨b - a - 1, List.mem_range.mpr (by omega), by
            rw [show a + 1 + (b - a - 1) = b by omega]; exact h3⟩
        simp only [this, Bool.or_true]

theorem psep_some {src : List Str} {o : Obs} {B : Nat} {p : List FieldObs} (h : PSep src o B) (hl : o.getLast? = some p) :
    isSynthetic src p = true ∨
      ∀ a, (paraNums p).getLast? = some a → ∃ b, a < b ∧ b < B ∧ isBlank (lineAt src b) = true := by
  unfold PSep at h
  rwa [hl] at h

theorem core_snoc (src : List Str) (o : Obs) (g : List FieldObs) (B B' : Nat) (h : Core src o B) (hle : B ≤ B')
    (hg : g ≠ [] ∧ (∀ f ∈ g, consecutive (f.2.map (·.1)) = true) ∧
      (isSynthetic src g = true ∨ ∀ f ∈ g, fieldOwnText src f = true))
    (hsep : ∀ p, o.getLast? = some p → pairOK src p g = true)
    (hr : ∀ m ∈ paraNums g, B ≤ m ∧ m < B')
    (hc : ∀ m, B ≤ m → m < B' → m ∈ paraNums g ∨ droppable src m) : Core src (o ++ [g]) B' := by
  obtain ⟨h1, h2, h3, h4⟩ := h
  refine ⟨fun g' hg' => ?_, ?_, fun n hn => ?_, fun n hn1 hn2 => ?_⟩
  · rcases List.mem_append.mp hg' with hg' | hg'
    · exact h1 g' hg'
    · rw [List.mem_singleton.mp hg']; exact hg
  · rw [separated_snoc, h2, Bool.true_and]
    cases hl : o.getLast? with
    | none => rfl
    | some p => exact hsep p hl
  · rw [allNums_append, allNums_single, List.mem_append] at hn
    rcases hn with hn | hn
    · exact Nat.lt_of_lt_of_le (h3 n hn) hle
    · exact (hr n hn).2
  · rw [allNums_append, allNums_single, List.mem_append, or_assoc]
    by_cases hs : n < B
    · exact (h4 n hn1 hs).imp_right .inr
    · exact .inr (hc n (Nat.le_of_not_lt hs) hn2)

theorem core_emit (src : List Str) (o : Obs) (s : Nat) (cnts : List Nat) (h : Core src o s) (hp : PSep src o s)
    (hne : cnts ≠ []) (hd : declStarts src s cnts) :
    Core src (o ++ [obsG (clean (mkFields src s cnts))]) (s + total cnts) := by
  have hq := group_fields src s cnts hd
  have hr := group_range src s cnts
  exact core_snoc src o _ s _ h (Nat.le_add_right _ _)
    ⟨group_nonempty src s cnts hne, fun f hf => (hq f hf).2, Or.inr fun f hf => (hq f hf).1⟩
    (fun p hl => pairOK_of_psep src p _ s (psep_some hp hl) fun m hm => (hr m hm).1) hr (group_cover src s cnts hd)

/-- the one-line `unknown` paragraph for the unparsable line `e` -/
def synth (src : List Str) (e : Nat) : List FieldObs := [(unknownName, [(e, lineAt src e)])]

theorem synth_isSynthetic (src : List Str) (e : Nat) (hnb : isBlank (lineAt src e) = false)
    (hnd : isDecl (lineAt src e) = false) : isSynthetic src (synth src e) = true := by
  simp [synth, isSynthetic, declaration, hnb, hnd]

theorem core_synth (src : List Str) (o : Obs) (e : Nat) (h : Core src o e)
    (hnb : isBlank (lineAt src e) = false) (hnd : isDecl (lineAt src e) = false) :
    Core src (o ++ [synth src e]) (e + 1) ∧ ∀ B, PSep src (o ++ [synth src e]) B := by
  have hs := synth_isSynthetic src e hnb hnd
  have hnums : paraNums (synth src e) = [e] := rfl
  constructor
  · refine core_snoc src o _ e _ h (Nat.le_succ e) ⟨List.cons_ne_nil _ _, ?_, Or.inl hs⟩
      (fun p _ => by rw [pairOK, hs, Bool.or_true, Bool.true_or]) (fun m hm => ?_) (fun m h1 h2 => .inl ?_)
    · intro f hf
      rw [List.mem_singleton.mp hf]; rfl
    · rw [hnums, List.mem_singleton] at hm; omega
    · rw [hnums, List.mem_singleton]; omega
  · intro B
    simp [PSep, hs]

/-! ### the loop -/

/-- the state of the loop by line numbers: no paragraph open, or one begun at line `s` whose closed fields have
`init` continuation lines each and whose open field has `c` -/
inductive AS where
  | none
  | opn (s : Nat) (init : List Nat) (c : Nat)

/-- the loop state an abstract state stands for -/
def conc (src : List Str) : AS → St
  | .none => Option.none
  | .opn s init c => some (mkFields src s init, mkField src (s + total init) c)

/-- before line `k`: the output covers the lines below the open paragraph's start `s` (below `k` if none is open),
and the open paragraph takes exactly the lines `s .. k - 1` -/
def InvS (src : List Str) (o : Obs) (k : Nat) : AS → Prop
  | .none => Core src o k ∧ PSep src o k
  | .opn s init c => Core src o s ∧ PSep src o s ∧ declStarts src s (init ++ [c]) ∧ 1 ≤ s ∧ k = s + total init + c + 1

/-- `Core` at the end of the text, without the bound: clauses (2)-(5) of `holdsOn` -/
def Final (src : List Str) (o : Obs) : Prop :=
  GroupsOK src o ∧ separated src o = true ∧ ∀ n, 1 ≤ n → n ≤ src.length → n ∈ allNums o ∨ droppable src n

theorem lineAt_pre (pre rest : List Str) (l : Str) : lineAt (pre ++ l :: rest) (pre.length + 1) = l := by
  simp [lineAt]

theorem core_flush (src : List Str) (acc : List (List Fld)) (a : AS) (k : Nat) (h : InvS src (obsOf acc) k a) :
    Core src (obsOf (acc ++ flush (conc src a))) k := by
  cases a with
  | none => rw [conc, flush, List.append_nil]; exact h.1
  | opn s init c =>
    obtain ⟨h1, h2, h3, h4, h5⟩ := h
    have := core_emit src (obsOf acc) s (init ++ [c]) h1 h2 (by simp) h3
    rw [conc, flush_some, ← mkFields_snoc, obsOf_append, h5]
    rwa [total_snoc, ← Nat.add_assoc, ← Nat.add_assoc] at this

/-- one line keeps the invariant: the loop from `a` on line `k` and `rest` is the loop on `rest` from a state for which
the invariant holds before line `k + 1` -/
theorem invS_step (src : List Str) (k : Nat) (hk1 : 1 ≤ k) (acc : List (List Fld)) (a : AS)
    (hinv : InvS src (obsOf acc) k a) (rest : List NL) :
    ∃ acc' a', InvS src (obsOf acc') (k + 1) a' ∧
      acc ++ go (conc src a) (⟨k, lineAt src k⟩ :: rest) = acc' ++ go (conc src a') rest := by
  rcases go_step (conc src a) ⟨k, lineAt src k⟩ rest with ⟨s, hs, e⟩ | ⟨hb, e⟩ | ⟨hnb, hd, e⟩ | ⟨hnb, hnd, e⟩ <;> rw [e]
  · -- the line joins the open field
    cases a with
    | none => cases hs
    | opn s0 init c =>
      cases hs
      obtain ⟨h1, h2, h3, h4, h5⟩ := hinv
      refine ⟨acc, .opn s0 init (c + 1), ⟨h1, h2, declStarts_last_irrel src s0 init c (c + 1) h3, h4, by omega⟩, ?_⟩
      rw [addLine_mkField src _ _ _ k (by omega)]
      rfl
  · -- a blank line closes the paragraph
    have hc := core_flush src acc a _ hinv
    exact ⟨_, .none, ⟨core_drop src _ _ hc (Or.inl hb), psep_of_blank src _ _ hc hb⟩, (List.append_assoc ..).symm⟩
  · -- a declaration opens a field
    rw [fromLine_eq]
    cases a with
    | none => exact ⟨acc, .opn k [] 0, ⟨hinv.1, hinv.2, ⟨hd, trivial⟩, hk1, rfl⟩, rfl⟩
    | opn s init c =>
      obtain ⟨h1, h2, h3, h4, h5⟩ := hinv
      have hk : k = s + total (init ++ [c]) := by rw [total_snoc]; omega
      refine ⟨acc, .opn s (init ++ [c]) 0,
        ⟨h1, h2, (declStarts_append src s _ [0]).mpr ⟨h3, hk ▸ hd, trivial⟩, h4, by rw [total_snoc]; omega⟩, ?_⟩
      rw [conc, conc, ← hk, mkFields_snoc]
      rfl
  · -- an unparsable line closes the paragraph and stands alone
    have hc := core_flush src acc a _ hinv
    obtain ⟨hc', hp'⟩ := core_synth src _ _ hc hnb hnd
    have hobs : obsOf (acc ++ flush (conc src a) ++ [[⟨unknownName, [⟨k, lineAt src k⟩]⟩]]) =
        obsOf (acc ++ flush (conc src a)) ++ [synth src k] := by
      rw [obsOf_append]; rfl
    exact ⟨_, .none, ⟨hobs ▸ hc', hobs ▸ hp' _⟩, by rw [← List.append_assoc, ← List.append_assoc]; rfl⟩

theorem go_final (src : List Str) (rest pre : List Str) (hsrc : src = pre ++ rest)
    (acc : List (List Fld)) (a : AS) (hinv : InvS src (obsOf acc) (pre.length + 1) a) :
    Final src (obsOf (acc ++ go (conc src a) (numberFrom (pre.length + 1) rest))) := by
  induction rest generalizing pre acc a with
  | nil =>
    obtain ⟨h1, h2, _, h4⟩ := core_flush src acc a _ hinv
    have hlen : src.length = pre.length := by rw [hsrc]; simp
    rw [numberFrom, go_nil]
    exact ⟨h1, h2, fun n hn1 hn2 => h4 n hn1 (by omega)⟩
  | cons l rest ih =>
    have hL : lineAt src (pre.length + 1) = l := by rw [hsrc]; exact lineAt_pre pre rest l
    obtain ⟨acc', a', hinv', e⟩ := invS_step src _ (Nat.le_add_left ..) acc a hinv (numberFrom (pre.length + 1 + 1) rest)
    have := ih (pre ++ [l]) (by rw [hsrc]; simp) acc' a'
    rw [List.length_append] at this
    rw [numberFrom, ← hL, e]
    exact this hinv'

theorem strictlyIncreasing_of_pairwise (l : List Nat) (h : l.Pairwise (· < ·)) : strictlyIncreasing l = true := by
  induction l with
  | nil => rfl
  | cons a as ih =>
    cases as with
    | nil => rfl
    | cons b bs =>
      have h' := List.pairwise_cons.mp h
      simp only [strictlyIncreasing, Bool.and_eq_true, decide_eq_true_eq]
      exact ⟨h'.1 b (by simp), ih h'.2⟩

/-- **C05, all clauses** — for every text the model of `get_paragraphs_as_field_groups` satisfies `holdsOn`:
clause (1) by `numbers_increasing`, clauses (2)-(5) by the loop invariant (`go_final`) -/
theorem sound (t : Str) : holdsOn t (model t) = true := by
  have hfin : Final (srcLines t) (model t) := by
    have := go_final (srcLines t) (srcLines t) [] rfl [] .none
      ⟨⟨(fun g hg => by cases hg), rfl, (fun n hn => by cases hn),
        (fun n h1 h2 => by simp at h2; omega)⟩, (by simp [PSep, obsOf])⟩
    simpa [model, parse, linesFromText, srcLines, conc] using this
  obtain ⟨hG, hS, hC⟩ := hfin
  obtain ⟨hinc, hbound⟩ := numbers_increasing t
  unfold holdsOn
  simp only [Bool.and_eq_true, List.all_eq_true, decide_eq_true_eq, Bool.or_eq_true, Bool.not_eq_true',
    List.mem_range, List.contains_iff_mem, and_assoc]
  refine ⟨strictlyIncreasing_of_pairwise _ hinc, hbound, fun g hg => (hG g hg).2.1, fun g hg => (hG g hg).2.2, ?_, hS, ?_⟩
  · intro i hi
    rcases hC (i + 1) (by omega) (by omega) with h | h
    · exact Or.inl (Or.inl h)
    · rcases h with h | h
      · exact Or.inl (Or.inr (by simpa [lineAt] using h))
      · exact Or.inr (by simpa [lineAt, declaration] using h)
  · intro g hg
    have := (hG g hg).1
    cases g with
    | nil => exact absurd rfl this
    | cons _ _ => rfl

/-- non-vacuity: a blank line absorbed after a value-less declaration, junk next to a paragraph
boundary, a form feed inside a line -/
example : model "License:\n\n text\x0cmore\njunk\nA: b\n".toList =
    [[("license".toList, [(1, []), (2, []), (3, " text\x0cmore".toList)])],
     [("unknown".toList, [(4, "junk".toList)])],
     [("a".toList, [(5, "b".toList)])]] := by
  -- the literals as character lists: the kernel would otherwise encode each to UTF-8 and decode it again
  repeat rw [String.toList_ofList]
  decide +kernel
example : holdsOn "License:\n\n text\x0cmore\njunk\nA: b\n".toList (model "License:\n\n text\x0cmore\njunk\nA: b\n".toList) = true := by
  rw [String.toList_ofList]
  decide +kernel

end Props.C05
