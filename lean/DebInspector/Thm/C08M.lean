/-
C08 — the merge clause on the text (`soundM`): an item list is rendered as a paragraph of C06's grammar, the header
parser delivers exactly its items (`Props.C06H.getParagraphData_items`), and the merged mapping is the expected one.
-/
import DebInspector.Thm.C06H
import DebInspector.Thm.C08
import DebInspector.Proofs.SplitJoin
namespace Props.C08M
open Py Model.Email Props.C06 Props.C06H Proofs.LinesAscii

theorem getParagraphData_items (fs : List Field) (fin : Bool) (hne : fs ≠ []) (hf : ∀ f ∈ fs, HF f)
    (hlines : ∀ l ∈ fs.flatMap fieldLines, NoT l ∧ l ≠ []) :
    getParagraphData (Props.C06.joinNl (fs.flatMap fieldLines) ++ (if fin then ['\n'] else [])) =
      mergeItems (fs.map fun f => (f.name, Props.C06.joinNl (f.value :: f.conts))) :=
  Props.C06H.getParagraphData_items fs fin hne hf hlines

/-! ### an item as a field of the document grammar -/

/-- the first line of the value and its continuation lines, one space after the colon -/
def fieldOf (nv : Str × Str) : Field := ⟨nv.1, (splitChar '\n' nv.2).headD [], (splitChar '\n' nv.2).tail, [' ']⟩

theorem joinNl_append (a b : List Str) (ha : a ≠ []) (hb : b ≠ []) :
    Props.C06.joinNl (a ++ b) = Props.C06.joinNl a ++ '\n' :: Props.C06.joinNl b := by
  simp only [joinNl_eq_join, join1_append '\n' a b ha hb]

theorem joinNl_groups (gs : List (List Str)) (h : ∀ g ∈ gs, g ≠ []) :
    Props.C06.joinNl (gs.map Props.C06.joinNl) = Props.C06.joinNl gs.flatten := by
  induction gs with
  | nil => rfl
  | cons g rest ih =>
    cases rest with
    | nil => simp [Props.C06.joinNl]
    | cons r rs =>
      have hflat : (r :: rs).flatten ≠ [] := by
        obtain ⟨y, ys, e⟩ := List.exists_cons_of_ne_nil (h r (by simp))
        simp [e]
      rw [List.flatten_cons, joinNl_append g _ (h g (List.mem_cons_self ..)) hflat,
        ← ih fun x hx => h x (List.mem_cons_of_mem _ hx)]
      rfl

theorem joinNl_lines (v : Str) : Props.C06.joinNl ((splitChar '\n' v).headD [] :: (splitChar '\n' v).tail) = v := by
  obtain ⟨f, cs, h⟩ := List.exists_cons_of_ne_nil (splitChar_ne_nil '\n' v)
  rw [h, List.headD_cons, List.tail_cons, ← h, joinNl_eq_join, join_splitChar]

theorem joinNl_fieldLines (nv : Str × Str) :
    Props.C06.joinNl (fieldLines (fieldOf nv)) = nv.1 ++ ':' :: ' ' :: nv.2 := by
  have := join_cons_append ['\n'] (nv.1 ++ [':', ' ']) ((splitChar '\n' nv.2).headD []) (splitChar '\n' nv.2).tail
  rw [← joinNl_eq_join, ← joinNl_eq_join, joinNl_lines] at this
  simpa [fieldLines, fieldOf, List.append_assoc] using this

theorem joinNl_fields (ps : List (Str × Str)) :
    Props.C06.joinNl ((ps.map fieldOf).flatMap fieldLines) = Props.C06.joinNl (ps.map fun nv => nv.1 ++ ':' :: ' ' :: nv.2) := by
  have hne : ∀ g ∈ (ps.map fieldOf).map fieldLines, g ≠ [] := fun g hg => by
    obtain ⟨f, _, rfl⟩ := List.mem_map.mp hg
    exact List.cons_ne_nil _ _
  rw [List.flatMap_def, ← joinNl_groups _ hne, List.map_map, List.map_map]
  exact congrArg _ (List.map_congr_left fun nv _ => joinNl_fieldLines nv)

theorem renderM_eq (ps : Props.C08.InputM) (hne : ps ≠ []) :
    Props.C08.renderM ps = Props.C06.joinNl ((ps.map fieldOf).flatMap fieldLines) ++ ['\n'] := by
  have := withEnds_flatten (ps.map fun nv => nv.1 ++ ':' :: ' ' :: nv.2) true (by simpa using hne)
  rw [withEnds_true, List.map_map, ← List.flatMap_def, if_pos rfl] at this
  rw [joinNl_fields, ← this, Props.C08.renderM]
  congr 1

theorem headP_first (p : Char → Bool) (v : Str) (h : (splitChar '\n' v).headD [] ≠ []) :
    headP p ((splitChar '\n' v).headD []) = headP p v := by
  have hj := joinNl_lines v
  obtain ⟨c, cs, hc⟩ := List.exists_cons_of_ne_nil h
  rw [hc] at hj ⊢
  rw [← hj]
  cases (splitChar '\n' v).tail <;> rfl

theorem fieldOf_facts (n v : Str) (hne : n ≠ []) (hn : ∀ c ∈ n, inRange c = true ∧ c ≠ ':')
    (hcr : ∀ l ∈ splitChar '\n' v, '\r' ∉ l) (hhead : headP isSpace ((splitChar '\n' v).headD []) = false)
    (hconts : ∀ l ∈ (splitChar '\n' v).tail, headP (fun c => c = ' ' || c = '\t') l = true) :
    HF (fieldOf (n, v)) ∧ ∀ l ∈ fieldLines (fieldOf (n, v)), NoT l ∧ l ≠ [] := by
  have hpiece : ∀ l ∈ splitChar '\n' v, NoT l := fun l hl => ⟨splitChar_no_sep '\n' v l hl, hcr l hl⟩
  obtain ⟨first, conts, hs⟩ := List.exists_cons_of_ne_nil (splitChar_ne_nil '\n' v)
  simp only [fieldOf, hs, List.headD_cons, List.tail_cons, List.forall_mem_cons] at hhead hconts hpiece ⊢
  have hname := fun c hc => inRange_facts (hn c hc).1
  have hsp : ∀ c ∈ [' '], c = ' ' ∨ c = '\t' := fun c hc => Or.inl (List.mem_singleton.mp hc)
  refine ⟨⟨hne, fun c hc => ⟨headerNameChar_of (hn c hc).1 (hn c hc).2, (hn c hc).2, (hname c hc).1, (hname c hc).2.1⟩,
      hsp, fun c hc => ?_, lastOK_of_noT hpiece.1, fun l hl => ⟨hconts l hl, lastOK_of_noT (hpiece.2 l hl)⟩⟩,
    fieldLines_NoT _ hne ⟨fun hm => (hname _ hm).2.2.1 rfl, fun hm => (hname _ hm).2.2.2.1 rfl⟩ hsp hpiece.1
      fun l hl => ⟨hpiece.2 l hl, fun e => by subst e; cases hconts [] hl⟩⟩
  -- the first line of the value starts with no white space, so with no blank
  cases first with
  | nil => cases hc
  | cons x xs =>
    have hx : isSpace x = false := hhead
    rw [← Option.some.inj hc]
    constructor <;> (intro e; subst e; revert hx; decide)

/-! ### the merged mapping is the expected one -/

theorem inRange_of_printable {c : Char} (h : (0x21 ≤ c.toNat && c.toNat ≤ 0x7e && c != ':') = true) :
    inRange c = true ∧ c ≠ ':' := by
  simp only [Bool.and_eq_true, bne_iff_ne] at h
  exact ⟨by rw [inRange, h.1.1, h.1.2]; rfl, h.2⟩

theorem item_facts (nv : Str × Str) (h : Props.C08.nameOk nv.1 = true ∧ Props.C08.valueOk nv.2 = true) :
    (HF (fieldOf nv) ∧ ∀ l ∈ fieldLines (fieldOf nv), NoT l ∧ l ≠ []) ∧
      Props.C08.keyOf nv = lowerAscii nv.1 ∧ Props.C08.valOf nv = nv.2 ∧ nv.2.isEmpty = false := by
  obtain ⟨hn, hv⟩ := h
  simp only [Props.C08.nameOk, Bool.and_eq_true, List.all_eq_true] at hn
  have hname : ∀ c ∈ nv.1, inRange c = true ∧ c ≠ ':' := fun c hc =>
    inRange_of_printable (alnum_range (by simpa using hn.2 c hc))
  unfold Props.C08.valueOk at hv
  obtain ⟨f, cs, hs⟩ := List.exists_cons_of_ne_nil (splitChar_ne_nil '\n' nv.2)
  rw [hs] at hv
  simp only [Bool.and_eq_true, Bool.not_eq_true', List.isEmpty_eq_false_iff, List.all_eq_true, Props.C08.contOk] at hv
  obtain ⟨⟨⟨⟨v1, v2⟩, v3⟩, v4⟩, v5⟩ := hv
  have noCr {l : Str} (hl : ∀ c ∈ l, isBoundary c = false) : '\r' ∉ l := fun hm => by cases hl _ hm
  have hfirst : (splitChar '\n' nv.2).headD [] = f := by rw [hs]; rfl
  have hhead : headP isSpace f = false := by
    obtain ⟨c, cs', rfl⟩ := List.exists_cons_of_ne_nil v1
    simpa [headP] using v2
  have hvne := lastP_true_ne_nil v5
  refine ⟨?_, strip_lower_name nv.1 fun c hc => (hname c hc).1, strip_of_trimmed ?_ v5, by simpa using hvne⟩
  · refine fieldOf_facts nv.1 nv.2 (fun e => by rw [e] at hn; cases hn.1) hname ?_ (hfirst ▸ hhead) ?_
    · rw [hs]
      exact List.forall_mem_cons.mpr ⟨noCr fun c hc => by simpa using v3 c hc, fun l hl => noCr fun c hc => by simpa using (v4 l hl).2 c hc⟩
    · rw [hs]
      exact fun l hl => (v4 l hl).1
  · rw [← headP_first isSpace nv.2 (hfirst ▸ v1), hfirst, hhead]

theorem expectedM_eq (ps : Props.C08.InputM) : Props.C08.expectedM ps =
    (Props.C08.distinct (ps.map fun nv => lowerAscii nv.1)).map fun n =>
      (n, Model.Email.joinNl (Props.C08.distinct ((ps.filter fun nv => lowerAscii nv.1 = n).map (·.2)))) := by
  simp only [Props.C08.expectedM, Props.C08.distinct, List.foldl_map]
  rfl

open Props.C08 in
/-- **C08, merge clause on the text** — a paragraph of `Name: value` fields, the values with any number of
continuation lines, with any pattern of repeated names and repeated values parses to the lower-cased names in
order of first occurrence, each with its distinct values (whole values) in order of first appearance,
newline-separated -/
theorem soundM (ps : InputM) : holdsOnM ps (modelM ps) = true := by
  unfold holdsOnM
  cases hw : wfM ps with
  | false => rfl
  | true =>
    simp only [wfM, Bool.and_eq_true, Bool.not_eq_true', List.isEmpty_eq_false_iff, List.all_eq_true] at hw
    obtain ⟨hne, hall⟩ := hw
    have hok := fun nv hnv => item_facts nv (hall nv hnv)
    have hdata : getParagraphData (renderM ps) = mergeItems ps := by
      have := getParagraphData_items (ps.map fieldOf) true (by simpa using hne)
        (List.forall_mem_map.mpr fun nv hnv => (hok nv hnv).1.1)
        (fun l hl => by
          obtain ⟨f, hf, hlf⟩ := List.mem_flatMap.mp hl
          obtain ⟨nv, hnv, rfl⟩ := List.mem_map.mp hf
          exact (hok nv hnv).1.2 l hlf)
      rw [if_pos rfl] at this
      rw [renderM_eq ps hne, this, List.map_map]
      exact congrArg _ ((List.map_congr_left fun nv _ => congrArg (Prod.mk nv.1) (joinNl_lines nv.2)).trans (List.map_id _))
    have hkeys : ps.map Props.C08.keyOf = ps.map fun nv => lowerAscii nv.1 := List.map_congr_left fun nv hnv => (hok nv hnv).2.1
    have hvals : ∀ k, valuesFor k ps = (ps.filter fun nv => lowerAscii nv.1 = k).map (·.2) := by
      intro k
      have hfil : (ps.filter fun nv => Props.C08.keyOf nv = k) = ps.filter fun nv => lowerAscii nv.1 = k :=
        List.filter_congr fun nv hnv => by rw [(hok nv hnv).2.1]
      rw [valuesFor, hfil, List.map_congr_left fun nv hnv => (hok nv (List.mem_filter.mp hnv).1).2.2.1,
        List.filter_eq_self]
      intro v hv
      obtain ⟨nv, hnv, rfl⟩ := List.mem_map.mp hv
      rw [(hok nv (List.mem_filter.mp hnv).1).2.2.2]
      rfl
    simp only [modelM, hdata, mergeItems_eq, hkeys, hvals, expectedM_eq, Bool.not_true, Bool.false_or, decide_true]

end Props.C08M
