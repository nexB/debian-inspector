/-
C12 — the copyright-object half: the two runs build paragraphs of the same classes, keys and words. A field of the original
run that holds a marked line also holds a line that is neither marked nor blank (`sim_out`), so its two values are empty
together and otherwise agree in what the later stages look at (`VR`). `from_fields` carries that to the paragraphs
(`AccRel`, `PRel`), and the merge and the fold keep `PRel`.
-/
import DebInspector.Thm.C12
import DebInspector.Thm.C10R
import DebInspector.Thm.C11W

namespace Props.C12P
open Py Model.Deb822 Model.Debcon Model.Copyright Props.C12 Proofs.Deb822 Spec.Words Proofs.Assoc

/-- a field as the original run emits it: its marked lines are markers, and if it has one it also holds a witness -/
def OutF (mk : Marked) (f : Fld) : Prop :=
  (∀ l ∈ f.lines, mk l.num = true → l.val = marker) ∧ ((∃ l ∈ f.lines, mk l.num = true) → ∃ w ∈ f.lines, Witness mk w)

/-- the marked lines are markers -/
def MarkVals (mk : Marked) (ls : List NL) : Prop := ∀ l ∈ ls, mk l.num = true → l.val = marker

/-- in every field of the state the marked lines are markers -/
def StMV (mk : Marked) : St → Prop
  | none => True
  | some (done, cur) => ∀ f ∈ done ++ [cur], MarkVals mk f.lines

theorem safe_witness (mk : Marked) (ls : List NL) (h : Safe mk ls) (l : NL) (hl : l ∈ ls) (hm : mk l.num = true) :
    ∃ w ∈ ls, Witness mk w := by
  induction ls with
  | nil => cases hl
  | cons x xs ih =>
    rcases List.mem_cons.mp hl with rfl | hl'
    · obtain ⟨w, hw, hww⟩ := h.1 hm
      exact ⟨w, by simp [hw], hww⟩
    · obtain ⟨w, hw, hww⟩ := ih h.2 hl'
      exact ⟨w, by simp [hw], hww⟩

theorem StMV.closed {mk : Marked} {st : St} (h : StMV mk st) : ∀ f ∈ closed st, MarkVals mk f.lines := by
  cases st with
  | none => exact nofun
  | some s => exact h

theorem StMV.addLine {mk : Marked} {s : List Fld × Fld} {l : NL} (h : StMV mk (some s)) (hl : mk l.num = true → l.val = marker) :
    StMV mk (some (addLine s l)) := by
  obtain ⟨h1, h2⟩ := forall_mem_snoc.mp h
  exact forall_mem_snoc.mpr ⟨h1, forall_mem_snoc.mpr ⟨h2, hl⟩⟩

/-- a field closed when all its marked lines have a witness keeps one after the trailing blank lines are dropped -/
theorem flush_out (mk : Marked) (st : St) (hs : ∀ f ∈ closed st, Safe mk f.lines) (hm : ∀ f ∈ closed st, MarkVals mk f.lines) :
    ∀ g ∈ flush st, ∀ f ∈ g, OutF mk f := by
  cases st with
  | none => exact nofun
  | some s =>
    rw [flush_some]
    refine List.forall_mem_singleton.mpr fun f hf => ?_
    obtain ⟨f0, hf0, rfl⟩ := List.mem_map.mp hf
    have hsub := (rstripLines_sublist f0.lines).subset
    refine ⟨fun l hl hml => hm f0 hf0 l (hsub hl) hml, ?_⟩
    rintro ⟨l, hl, hml⟩
    obtain ⟨w, hw, hww⟩ := safe_witness mk f0.lines (hs f0 hf0) l (hsub hl) hml
    exact ⟨w, (rstripLines_mem_or_blank f0.lines w hw).resolve_right (by rw [hww.2]; exact Bool.false_ne_true), hww⟩

theorem step_out {mk : Marked} {l : NL} {st st' : St} {pre : List (List Fld)} (h : Step mk l st pre st') (hmv : StMV mk st) :
    (∀ g ∈ pre, ∀ f ∈ g, OutF mk f) ∧ StMV mk st' := by
  cases h with
  | join s h => exact ⟨nofun, hmv.addLine h⟩
  | close st hs => exact ⟨flush_out mk st hs hmv.closed, trivial⟩
  | decl st hs hm =>
    exact ⟨nofun, forall_mem_snoc.mpr
      ⟨hmv.closed, List.forall_mem_singleton.mpr fun h => absurd (hm.symm.trans h) Bool.false_ne_true⟩⟩

/-- the original run, with the invariant of `Props.C12.sim`: every field it closes has a witness for its marked lines -/
theorem sim_out (mk : Marked) (items : List Item) (k : Nat) (st : St) (hok : ItemsOK mk k items)
    (hinv : StInv mk st items)
    (hmv : StMV mk st) :
    ∀ g ∈ go st (numberFrom k (origOf items)), ∀ f ∈ g, OutF mk f := by
  induction items generalizing k st with
  | nil => exact flush_out mk st (closed_safe mk st [] hinv nofun) hmv.closed
  | cons x rest ih =>
    obtain ⟨pre, st', hstep, hinv', hA, _⟩ := step mk k x rest st hok hinv
    obtain ⟨hpre, hmv'⟩ := step_out hstep hmv
    rw [hA]
    exact List.forall_mem_append.mpr ⟨hpre, ih (k + 1) st' hok.2.2.2.2 hinv' hmv'⟩

/-! ### one tracked field in the two runs -/

theorem words_marker : words marker = [] := by decide

theorem blankLine_words (mk : Marked) (l : NL) (h : mk l.num = true → l.val = marker) :
    words (blankLine mk l).val = words l.val := by
  unfold blankLine
  by_cases hm : mk l.num = true
  · simp only [hm, if_true]
    rw [h hm, words_marker]; rfl
  · simp [hm]

theorem mapF_words (mk : Marked) (f : Fld) (h : OutF mk f) :
    words (lstrip (fieldText (mapF mk f))) = words (lstrip (fieldText f)) := by
  rw [Proofs.Words.words_lstrip, Proofs.Words.words_lstrip, Props.C11W.words_fieldText, Props.C11W.words_fieldText]
  unfold Props.C11W.fldWords mapF
  simp only [List.flatMap_map]
  exact Proofs.Words.flatMap_congr fun l hl => blankLine_words mk l (h.1 l hl)

/-- what matters of the value of a field, the same in the two runs -/
structure VR (x y : Str) : Prop where
  xne : x ≠ []
  yne : y ≠ []
  xh : headP isSpace x = false
  yh : headP isSpace y = false
  wds : words x = words y

theorem field_rel (mk : Marked) (f : Fld) (h : OutF mk f) (hc : rstripLines f.lines = f.lines) :
    (fieldText (mapF mk f)).isEmpty = (fieldText f).isEmpty ∧
    ((fieldText f).isEmpty = false → VR (lstrip (fieldText f)) (lstrip (fieldText (mapF mk f)))) := by
  have hne : ∀ {g : Fld}, lstrip (fieldText g) ≠ [] → (fieldText g).isEmpty = false := fun h =>
    List.isEmpty_eq_false_iff.mpr fun e => h (by rw [e]; rfl)
  by_cases hm : ∃ l ∈ f.lines, mk l.num = true
  · -- a marked line: both values hold the witness, a line that is not blank
    obtain ⟨w, hw, hww⟩ := h.2 hm
    have hA := Props.C10R.lstrip_value_ne f w hw hww.2
    have hB := Props.C10R.lstrip_value_ne (mapF mk f) w (blankLine_witness mk w hww ▸ List.mem_map_of_mem hw) hww.2
    exact ⟨(hne hB).trans (hne hA).symm, fun _ => ⟨hA, hB, lstrip_head _, lstrip_head _, (mapF_words mk f h).symm⟩⟩
  · -- no marked line: the same field, and if it has a value its last line is not blank
    have hsame : mapF mk f = f := by
      show Fld.mk f.name (f.lines.map (blankLine mk)) = f
      rw [List.map_congr_left (f := blankLine mk) (g := id) fun l hl => if_neg fun hml => hm ⟨l, hl, hml⟩, List.map_id]
    rw [hsame]
    refine ⟨rfl, fun hv => ?_⟩
    have hlines : f.lines ≠ [] := fun e => by rw [fieldText, e] at hv; cases hv
    have hl := List.getLast?_eq_some_getLast hlines
    have := Props.C10R.lstrip_value_ne f _ (List.mem_of_getLast? hl) (rstrip_fixed_last f.lines hc _ hl)
    exact ⟨this, this, lstrip_head _, lstrip_head _, rfl⟩

/-! ### the accumulator of `from_fields` in the two runs -/

open Props.C09G (All2)

theorem All2.append {α β} {R : α → β → Prop} {a1 a2 : List α} {b1 b2 : List β} (h1 : All2 R a1 b1) (h2 : All2 R a2 b2) :
    All2 R (a1 ++ a2) (b1 ++ b2) :=
  Props.C09G.All2.append h1 h2

/-- entries of the two accumulators: the same key, values related by `VR` -/
def KR (a b : Str × Str) : Prop := a.1 = b.1 ∧ VR a.2 b.2
def XR (a b : Str × XV) : Prop := a.1 = b.1 ∧ ∃ x y, a.2 = XV.s x ∧ b.2 = XV.s y ∧ VR x y

open Proofs.CopyrightTotal in
/-- the accumulator of `from_fields` in the original run (`aA`) and in the blanked run (`aB`): the first satisfies `AccInv`
(`seenA`, `lseenA`, `knd`, `xnd`, `kin`, `xout`); both have seen the same names, stand at the same suffix and hold ranges,
known and extra values under the same keys, the values related by `VR` -/
structure AccRel (kn : List Str) (aA aB : Acc) : Prop where
  seenA : KeysSeen aA
  knd : (aA.known.map (·.1)).Nodup
  xnd : (aA.extra.map (·.1)).Nodup
  kin : ∀ k ∈ aA.known.map (·.1), k ∈ kn
  xout : ∀ k ∈ aA.extra.map (·.1), k ∉ kn
  lseenA : ∀ k ∈ aA.lines.map (·.1), k ∈ aA.seen
  seen : aB.seen = aA.seen
  suffix : aB.suffix = aA.suffix
  lkeys : aB.lines.map (·.1) = aA.lines.map (·.1)
  kvals : All2 KR aA.known aB.known
  xvals : All2 XR aA.extra aB.extra

open Props.C11W Proofs.CopyrightTotal

theorem AccRel.inv {kn : List Str} {aA aB : Acc} (h : AccRel kn aA aB) : AccInv kn aA :=
  ⟨h.seenA, h.lseenA, h.knd, h.xnd, h.kin, h.xout⟩

theorem AccRel.kkeys {kn : List Str} {aA aB : Acc} (h : AccRel kn aA aB) : aB.known.map (·.1) = aA.known.map (·.1) :=
  h.kvals.keys fun _ _ h => h.1

theorem AccRel.xkeys {kn : List Str} {aA aB : Acc} (h : AccRel kn aA aB) : aB.extra.map (·.1) = aA.extra.map (·.1) :=
  h.xvals.keys fun _ _ h => h.1

theorem AccRel.store {kn : List Str} {aA aB : Acc} (h : AccRel kn aA aB) {name : Str} (hn : name ∉ aA.seen) (suffix : Nat)
    (rA rB : Nat × Nat) {x y : Str} (hv : VR x y) :
    AccRel kn (store kn aA name suffix rA x) (store kn aB name suffix rB y) := by
  have hi := h.inv.store hn suffix rA x
  have hl : (lset aB.lines name rB).map (·.1) = (lset aA.lines name rA).map (·.1) := lset_keys _ _ _ _ _ h.lkeys
  cases hkn : kn.contains name with
  | true =>
    rw [store_known hkn] at hi ⊢
    rw [store_known hkn]
    exact { seenA := hi.seen, knd := hi.knd, xnd := hi.xnd, kin := hi.kin, xout := hi.xout, lseenA := hi.lseen,
            seen := by rw [h.seen], suffix := rfl, lkeys := hl,
            kvals := h.kvals.append (All2.cons ⟨rfl, hv⟩ All2.nil), xvals := h.xvals }
  | false =>
    rw [store_extra hkn] at hi ⊢
    rw [store_extra hkn]
    exact { seenA := hi.seen, knd := hi.knd, xnd := hi.xnd, kin := hi.kin, xout := hi.xout, lseenA := hi.lseen,
            seen := by rw [h.seen], suffix := rfl, lkeys := hl,
            kvals := h.kvals, xvals := h.xvals.append (All2.cons ⟨rfl, x, y, rfl, rfl, hv⟩ All2.nil) }

open Proofs.CopyrightTotal in
theorem addField_rel (mk : Marked) (kn : List Str) (aA aB : Acc) (f : Fld) (hrel : AccRel kn aA aB) (hO : OutF mk f)
    (hc : rstripLines f.lines = f.lines) :
    ∃ aA' aB', addField kn aA f = .ok aA' ∧ addField kn aB (mapF mk f) = .ok aB' ∧ AccRel kn aA' aB' := by
  obtain ⟨hemp, hvr⟩ := field_rel mk f hO hc
  cases hv : (fieldText f).isEmpty with
  | true => exact ⟨aA, aB, addField_empty kn aA f hv, addField_empty kn aB _ (hemp.trans hv), hrel⟩
  | false =>
    have hsB : KeysSeen aB := by
      unfold KeysSeen
      rw [hrel.kkeys, hrel.xkeys, hrel.seen]
      exact hrel.seenA
    obtain ⟨name, suffix, _, _, hfr, hn, _, _, hA⟩ := addField_store kn aA f hrel.seenA hv
    obtain ⟨name', suffix', _, _, hfr', _, _, _, hB⟩ := addField_store kn aB (mapF mk f) hsB (hemp.trans hv)
    -- the two runs choose the same name
    rw [hrel.seen, hrel.suffix, show (mapF mk f).name = f.name from rfl, hfr] at hfr'
    cases hfr'
    exact ⟨_, _, hA, hB, hrel.store hn suffix _ _ (hvr hv)⟩

theorem addFields_rel (mk : Marked) (kn : List Str) (fs : List Fld) (aA aB : Acc) (hrel : AccRel kn aA aB)
    (hO : ∀ f ∈ fs, OutF mk f ∧ rstripLines f.lines = f.lines) :
    ∃ aA' aB', addFields kn aA fs = .ok aA' ∧ addFields kn aB (fs.map (mapF mk)) = .ok aB' ∧ AccRel kn aA' aB' := by
  induction fs generalizing aA aB with
  | nil => exact ⟨aA, aB, rfl, rfl, hrel⟩
  | cons f fs ih =>
    obtain ⟨a1, b1, h1, h2, hr1⟩ := addField_rel mk kn aA aB f hrel (hO f (by simp)).1 (hO f (by simp)).2
    obtain ⟨a2, b2, h3, h4, hr2⟩ := ih a1 b1 hr1 (fun g hg => hO g (by simp [hg]))
    exact ⟨a2, b2, by rw [Proofs.CopyrightTotal.addFields_cons_ok h1]; exact h3,
      by rw [List.map_cons, Proofs.CopyrightTotal.addFields_cons_ok h2]; exact h4, hr2⟩

/-! ### one paragraph in the two runs -/

/-- values of the rendered dictionary in the two runs: texts with the same words, or both the empty list -/
def DVR : DV → DV → Prop
  | .s x, .s y => words x = words y
  | .emptyList, .emptyList => True
  | _, _ => False

def DR (a b : Str × DV) : Prop := a.1 = b.1 ∧ DVR a.2 b.2

/-- a text value is neither empty nor starts with white space: it is truthy, and the merge keeps its first line -/
def SolidDV : DV → Prop
  | .s x => x ≠ [] ∧ headP isSpace x = false
  | .emptyList => True

open Props.C11W in
/-- a paragraph in the two runs: the same class, the same keys with the same words (`dict`), the same range keys; a license
paragraph is empty in both or in neither (`licEmpty`) and holds its two typed fields (`shapeA`, `shapeB`: `LicShape`);
the values of a catch-all paragraph are `SolidDV` in both (`solid`), which the merge and the fold condition need -/
structure PRel (pA pB : Para) : Prop where
  kind : pA.kind = pB.kind
  dict : All2 DR (toDict pA) (toDict pB)
  lkeys : pA.lines.map (·.1) = pB.lines.map (·.1)
  licEmpty : pA.kind = .license → licenseParaIsEmpty pA = licenseParaIsEmpty pB
  shapeA : LicShape pA
  shapeB : LicShape pB
  solid : pA.kind = .catchall → (∀ kv ∈ toDict pA, SolidDV kv.2) ∧ (∀ kv ∈ toDict pB, SolidDV kv.2)

theorem asFormattedText_solid (v : Str) (hne : v ≠ []) (hh : headP isSpace v = false) :
    asFormattedText v ≠ [] ∧ headP isSpace (asFormattedText v) = false := by
  obtain ⟨c, m, ls, hsl, hc⟩ := Proofs.Splitlines.splitlines_head v hne hh
  have hie : v.isEmpty = false := by cases v <;> simp_all
  have : asFormattedText v = (c :: m) ++ (match ls with | [] => [] | _ => '\n' :: ' ' :: joinNlSp (ls.map encLine)) := by
    simp only [asFormattedText, hie, Bool.false_eq_true, if_false, asFormattedLines, hsl, List.map_cons, encLine,
      isBlank_cons, hc, Bool.false_and]
    cases ls with
    | nil => simp [joinNlSp]
    | cons x xs => simp [joinNlSp]
  rw [this]
  exact ⟨by simp, by simp [headP, hc]⟩

theorem fromFormattedText_ne (v : Str) (hne : v ≠ []) (hh : headP isSpace v = false) : fromFormattedText v ≠ [] := by
  obtain ⟨c, m, ls, hsl, hc⟩ := Proofs.Splitlines.splitlines_head v hne hh
  have hie : v.isEmpty = false := by cases v <;> simp_all
  simp only [fromFormattedText, hie, Bool.false_eq_true, if_false, lineSeparated, hsl, fromFormattedLines]
  have := strip_ne_nil (l := c :: m) (by rw [isBlank_cons, hc]; rfl)
  cases hs : strip (c :: m) with
  | nil => exact absurd hs this
  | cons d ds => cases ls <;> simp [Model.Debcon.joinNl]

theorem XR.solid {a b : Str × XV} (h : XR a b) : SolidDV (extraOut a.2) ∧ SolidDV (extraOut b.2) := by
  obtain ⟨ka, va⟩ := a
  obtain ⟨kb, vb⟩ := b
  obtain ⟨_, x, y, rfl, rfl, h⟩ := h
  simp only [extraOut, List.isEmpty_eq_false_iff.mpr h.xne, List.isEmpty_eq_false_iff.mpr h.yne, Bool.false_eq_true, if_false]
  exact ⟨asFormattedText_solid x h.xne h.xh, asFormattedText_solid y h.yne h.yh⟩

theorem DVR_extraOut {u w : Str} (h : words u = words w) : DVR (extraOut (.s u)) (extraOut (.s w)) := by
  show xwords (extraOut (.s u)) = xwords (extraOut (.s w))
  rw [xwords_extraOut, xwords_extraOut]
  exact h

/-- whatever is computed from a known value is related in the two runs as soon as it is on `VR`-related values -/
theorem AccRel.known_rel {kn : List Str} {aA aB : Acc} (h : AccRel kn aA aB) (k : Str) {γ : Type} (S : γ → γ → Prop)
    (F : Option Str → γ) (hn : S (F none) (F none)) (hF : ∀ x y, VR x y → S (F (some x)) (F (some y))) :
    S (F (aA.known.lookup k)) (F (aB.known.lookup k)) := by
  rcases h.kvals.lookup_rel k with ⟨h1, h2⟩ | ⟨x, y, h1, h2, hvr⟩
  · rw [h1, h2]; exact hn
  · rw [h1, h2]; exact hF x y hvr

theorem licName_ne (v : Str) (hne : v ≠ []) (hh : headP isSpace v = false) : (licenseFromValue v).1.isEmpty = false := by
  obtain ⟨n, t, hf, hn⟩ := Props.C10R.license_name_ne v hne hh
  rw [fromValue_license] at hf
  cases hf
  exact List.isEmpty_eq_false_iff.mpr hn

theorem mkPara_rel (K : Kind) {aA aB : Acc} (h : AccRel ((typedFields K).map (·.1)) aA aB) : PRel (mkPara K aA) (mkPara K aB) := by
  have hdA := Props.C07.toDict_mkPara K aA h.xnd h.xout
  have hdB := Props.C07.toDict_mkPara K aB (h.xkeys ▸ h.xnd) (h.xkeys ▸ h.xout)
  refine { kind := rfl, dict := ?_, lkeys := h.lkeys.symm, licEmpty := ?_, shapeA := mkPara_shape K aA,
           shapeB := mkPara_shape K aB, solid := ?_ }
  · rw [hdA, hdB]
    refine All2.append (All2.map_same _ _ _ fun nc _ => ⟨rfl, ?_⟩) (h.xvals.map_both _ _ ?_)
    · refine h.known_rel nc.1 DVR (fun o => .s (dumps (fromValue nc.2 o))) rfl fun x y hvr => ?_
      show words _ = words _
      rw [Proofs.WordsConv.words_dumps_fromValue, Proofs.WordsConv.words_dumps_fromValue]
      exact hvr.wds
    · rintro ⟨k, _⟩ ⟨_, _⟩ ⟨hk, x, y, rfl, rfl, hvr⟩
      exact ⟨hk, DVR_extraOut hvr.wds⟩
  · -- emptiness of a license paragraph depends on which of its two fields are there, and on the extra data
    intro hK
    cases (hK : K = .license)
    have ne := fun {v : Str} => List.isEmpty_eq_false_iff (l := v)
    have hcom := h.known_rel comKey Eq (fun o => optTruthy (o.map fun s => if s.isEmpty then s else fromFormattedText s)) rfl
      fun x y hvr => by
        simp only [Option.map_some, optTruthy, ne.mpr hvr.xne, ne.mpr hvr.yne, Bool.false_eq_true, if_false,
          ne.mpr (fromFormattedText_ne x hvr.xne hvr.xh), ne.mpr (fromFormattedText_ne y hvr.yne hvr.yh)]
    rw [licenseParaIsEmpty_mkPara, licenseParaIsEmpty_mkPara, h.xvals.isEmpty_eq, hcom]
    refine h.known_rel licKey Eq (fun o => _ && (licenseFromValue (o.getD [])).1.isEmpty &&
      !optTruthy (licenseFromValue (o.getD [])).2) rfl fun x y hvr => ?_
    simp only [Option.getD_some, licName_ne x hvr.xne hvr.xh, licName_ne y hvr.yne hvr.yh, Bool.and_false, Bool.false_and]
  · intro hK
    cases (hK : K = .catchall)
    rw [hdA, hdB, typedFields_catchall]
    obtain ⟨s1, s2⟩ := h.xvals.forall_both fun a b hab => XR.solid hab
    exact ⟨List.forall_mem_map.mpr s1, List.forall_mem_map.mpr s2⟩

open Props.C11W Props.C07 in
theorem fromFields_rel (mk : Marked) (K : Kind) (g : List Fld) (hO : ∀ f ∈ g, OutF mk f ∧ rstripLines f.lines = f.lines) :
    ∃ pA pB, fromFields K g = .ok pA ∧ fromFields K (g.map (mapF mk)) = .ok pB ∧ PRel pA pB := by
  obtain ⟨aA, aB, hA, hB, hrel⟩ := addFields_rel mk ((typedFields K).map (·.1)) g ⟨[], [], [], [], 1⟩ ⟨[], [], [], [], 1⟩
    { seenA := ⟨nofun, nofun⟩, knd := List.nodup_nil, xnd := List.nodup_nil, kin := nofun, xout := nofun, lseenA := nofun,
      seen := rfl, suffix := rfl, lkeys := rfl, kvals := All2.nil, xvals := All2.nil } hO
  exact ⟨_, _, by rw [fromFields_eq, hA]; rfl, by rw [fromFields_eq, hB]; rfl, mkPara_rel K hrel⟩

/-! ### all paragraphs, the merge and the fold -/

theorem classify_mapF (mk : Marked) (g : List Fld) : classify (g.map (mapF mk)) = classify g := by
  unfold classify
  simp only [List.map_map]
  rfl

theorem builtPara_rel (mk : Marked) (g : List Fld) (hO : ∀ f ∈ g, OutF mk f ∧ rstripLines f.lines = f.lines) :
    PRel (Props.C07.builtPara g) (Props.C07.builtPara (g.map (mapF mk))) := by
  obtain ⟨pA, pB, hA, hB, hr⟩ := fromFields_rel mk (classify g) g hO
  rw [← classify_mapF mk g] at hB
  cases Props.C07.builtPara_of_ok hA
  cases Props.C07.builtPara_of_ok hB
  exact hr

theorem groupByKind_rel (psA psB : List Para) (h : All2 PRel psA psB) :
    All2 (All2 PRel) (groupByKind psA) (groupByKind psB) := by
  induction h with
  | nil => exact All2.nil
  | @cons a b as0 bs0 hab hrest ih =>
    rw [Props.C07.groupByKind_cons, Props.C07.groupByKind_cons]
    generalize groupByKind as0 = GA at ih
    generalize groupByKind bs0 = GB at ih
    cases ih with
    | nil => exact All2.cons (All2.cons hab All2.nil) All2.nil
    | @cons gA gB restA restB hg hr =>
      cases hg with
      | nil => exact All2.cons (All2.cons hab All2.nil) All2.nil
      | @cons q q' g g' hq hgg =>
        simp only
        have hk : (q.kind = a.kind) = (q'.kind = b.kind) := by rw [hq.kind, hab.kind]
        by_cases hc : q.kind = a.kind
        · have hc' : q'.kind = b.kind := by rw [← hk]; exact hc
          simp only [hc, hc', if_true]
          exact All2.cons (All2.cons hab (All2.cons hq hgg)) hr
        · have hc' : ¬ q'.kind = b.kind := by rw [← hk]; exact hc
          simp only [hc, hc', if_false]
          exact All2.cons (All2.cons hab All2.nil) (All2.cons (All2.cons hq hgg) hr)

theorem dvals_rel (gA gB : List Para) (h : All2 PRel gA gB) :
    All2 DVR (gA.flatMap fun p => (toDict p).map (·.2)) (gB.flatMap fun p => (toDict p).map (·.2)) := by
  induction h with
  | nil => exact All2.nil
  | cons hab _ ih =>
    simp only [List.flatMap_cons]
    exact (hab.dict.map_both _ _ (fun a b h => h.2)).append ih

theorem values_rel (a b : List DV) (h : All2 DVR a b) :
    All2 (fun x y => words x = words y) (a.filterMap dvStr) (b.filterMap dvStr) := by
  induction h with
  | nil => exact All2.nil
  | @cons x y _ _ hxy _ ih =>
    cases x with
    | s u =>
      cases y with
      | s w => simp only [List.filterMap_cons, dvStr]; exact All2.cons hxy ih
      | emptyList => exact hxy.elim
    | emptyList =>
      cases y with
      | s w => exact hxy.elim
      | emptyList => simp only [List.filterMap_cons, dvStr]; exact ih

theorem flatMap_words_rel (a b : List Str) (h : All2 (fun x y => words x = words y) a b) :
    a.flatMap words = b.flatMap words := by
  induction h with
  | nil => rfl
  | cons hxy _ ih => simp only [List.flatMap_cons, hxy, ih]

theorem lines_isEmpty_rel (gA gB : List Para) (h : All2 PRel gA gB) :
    (gA.flatMap fun p => p.lines.map (·.2)).isEmpty = (gB.flatMap fun p => p.lines.map (·.2)).isEmpty := by
  refine Proofs.Assoc.isEmpty_eq_of_length_eq ?_
  induction h with
  | nil => rfl
  | cons hab _ ih =>
    have e := congrArg List.length hab.lkeys
    rw [List.length_map, List.length_map] at e
    rw [List.flatMap_cons, List.flatMap_cons, List.length_append, List.length_append, List.length_map, List.length_map, e, ih]

theorem merged_text_solid (x : Str) (vs : List Str) (hne : x ≠ []) (hh : headP isSpace x = false) :
    fromFormattedLines (x :: vs) ≠ [] ∧ headP isSpace (fromFormattedLines (x :: vs)) = false := by
  have h1 := strip_ne_nil (isBlank_of_head hh hne)
  rw [fromFormattedLines, Proofs.Splitlines.joinNl_headP _ _ _ h1]
  exact ⟨Proofs.Splitlines.joinNl_ne_nil' _ _ h1, strip_head x⟩

theorem merged_solid (dv : List DV) (h : ∀ v ∈ dv, SolidDV v) :
    SolidDV (extraOut (if (dv.filterMap dvStr).isEmpty then .emptyList else .s (fromFormattedLines (dv.filterMap dvStr)))) := by
  cases hV : dv.filterMap dvStr with
  | nil => exact trivial
  | cons x vs =>
    obtain ⟨v, hv, hvx⟩ := List.mem_filterMap.mp (hV ▸ List.mem_cons_self : x ∈ dv.filterMap dvStr)
    cases v with
    | emptyList => cases hvx
    | s y =>
      cases hvx
      obtain ⟨a1, a2⟩ := merged_text_solid x vs (h _ hv).1 (h _ hv).2
      simp only [List.isEmpty_cons, Bool.false_eq_true, if_false, extraOut, List.isEmpty_eq_false_iff.mpr a1]
      exact asFormattedText_solid _ a1 a2

theorem solid_values (g : List Para) (h : ∀ p ∈ g, ∀ kv ∈ toDict p, SolidDV kv.2) :
    ∀ v ∈ g.flatMap fun p => (toDict p).map (·.2), SolidDV v := by
  intro v hv
  obtain ⟨p, hp, hv⟩ := List.mem_flatMap.mp hv
  obtain ⟨kv, hkv, rfl⟩ := List.mem_map.mp hv
  exact h p hp kv hkv

open Props.C11W in
theorem mergeRun_rel (gA gB : List Para) (h : All2 PRel gA gB) (hcat : ∀ p ∈ gA, p.kind = .catchall) (mA : Para)
    (hm : mergeRun gA = .ok mA) : ∃ mB, mergeRun gB = .ok mB ∧ PRel mA mB := by
  have hdv := dvals_rel gA gB h
  obtain ⟨hsA, rfl⟩ := Props.C07.mergeRun_inv hm
  have hmB := Props.C07.mergeRun_of_strings gB (hdv.forall_imp (fun a b hab ⟨s, hs⟩ => by
    cases b with
    | s y => exact ⟨y, rfl⟩
    | emptyList => rw [hs] at hab; exact hab.elim) hsA)
  have hvals := values_rel _ _ hdv
  -- every value of a catch-all paragraph is solid, in both runs
  obtain ⟨s1, s2⟩ := (h.imp_mem fun a ha b hab => hab.solid (hcat a ha)).forall_both fun _ _ hs => hs
  refine ⟨_, hmB, { kind := rfl, dict := ?_, lkeys := ?_, licEmpty := nofun, shapeA := nofun, shapeB := nofun,
                    solid := fun _ => ?_ }⟩
  · rw [Props.C07.toDict_merged, Props.C07.toDict_merged]
    refine All2.cons ⟨rfl, ?_⟩ All2.nil
    simp only [← hvals.isEmpty_eq]
    split
    · exact trivial
    · exact DVR_extraOut ((Proofs.WordsConv.words_fromFormattedLines _).trans
        ((flatMap_words_rel _ _ hvals).trans (Proofs.WordsConv.words_fromFormattedLines _).symm))
  · rw [Props.C07.merged_lines_keys, Props.C07.merged_lines_keys, lines_isEmpty_rel gA gB h]
  · rw [Props.C07.toDict_merged, Props.C07.toDict_merged]
    exact ⟨List.forall_mem_singleton.mpr (merged_solid _ (solid_values gA s1)),
      List.forall_mem_singleton.mpr (merged_solid _ (solid_values gB s2))⟩

theorem dict_keys_rel (pA pB : Para) (h : PRel pA pB) : (toDict pA).map (·.1) = (toDict pB).map (·.1) :=
  (h.dict.keys fun _ _ h => h.1).symm

theorem isAllUnknown_rel (pA pB : Para) (h : PRel pA pB) : isAllUnknown pA = isAllUnknown pB := by
  have e : ∀ p, isAllUnknown p = ((toDict p).map (·.1)).all fun k => startsWith k unknownName := fun p => by
    rw [List.all_map]; rfl
  rw [e, e, dict_keys_rel pA pB h]

theorem all_unknown_rel (gA gB : List Para) (h : All2 PRel gA gB) : gA.all isAllUnknown = gB.all isAllUnknown := by
  induction h with
  | nil => rfl
  | cons hab _ ih => simp only [List.all_cons, isAllUnknown_rel _ _ hab, ih]

open Props.C07 in
theorem mergeGroup_rel (gA gB : List Para) (hg : All2 PRel gA gB) (hkind : ∀ q ∈ gA, ∀ q' ∈ gA, q.kind = q'.kind)
    (oA : List Para) (hA : mergeGroup gA = .ok oA) : ∃ oB, mergeGroup gB = .ok oB ∧ All2 PRel oA oB := by
  have hkeep : keepGroup gB = keepGroup gA := by
    cases hg with
    | nil => rfl
    | @cons p p' ps ps' hp hps =>
      have hall : All2 PRel (p :: ps) (p' :: ps') := All2.cons hp hps
      rw [keepGroup, keepGroup, ← hp.kind, hall.length_eq, ← all_unknown_rel _ _ hall]
  cases hk : keepGroup gA with
  | true =>
    rw [mergeGroup_keep hk] at hA
    cases Except.ok.inj hA
    exact ⟨gB, mergeGroup_keep (hkeep.trans hk), hg⟩
  | false =>
    rw [mergeGroup_merge hk] at hA
    obtain ⟨mA, hm, rfl⟩ := map_eq_ok hA
    obtain ⟨p, ps, rfl, hpk⟩ := keepGroup_false hk
    obtain ⟨mB, hmB, hrel⟩ := mergeRun_rel _ _ hg (fun q hq => (hkind q hq p List.mem_cons_self).trans hpk) mA hm
    exact ⟨[mB], by rw [mergeGroup_merge (hkeep.trans hk), hmB]; rfl, All2.cons hrel All2.nil⟩

open Props.C07 in
theorem mergeUnknown_rel (psA psB : List Para) (h : All2 PRel psA psB) (resA : List Para) (hA : mergeUnknown psA = .ok resA) :
    ∃ resB, mergeUnknown psB = .ok resB ∧ All2 PRel resA resB := by
  rw [mergeUnknown_eq] at hA ⊢
  obtain ⟨gsA, hgsA, rfl⟩ := map_eq_ok hA
  obtain ⟨gsB, hgsB, hrel⟩ := (groupByKind_rel psA psB h).mapExcept_rel
    (fun gA gB hgA hg oA => mergeGroup_rel gA gB hg (groupByKind_props psA gA hgA).2 oA) hgsA
  exact ⟨_, by rw [hgsB]; rfl, hrel.flatten⟩

def singleTruthy (d : List (Str × DV)) : Bool :=
  match d with
  | [(_, v)] => dvTruthy v
  | _ => false

open Props.C07 in
theorem foldCond_eq (p1 p2 : Para) : foldCond p1 p2 =
    (decide (p1.kind = .license) && licenseParaIsEmpty p1 && decide (p2.kind = .catchall) &&
      decide ((toDict p2).map (·.1) = [unknownName]) && singleTruthy (toDict p2)) := by
  unfold foldCond singleTruthy
  cases toDict p2 with
  | nil => rfl
  | cons a as =>
    cases as with
    | nil => rfl
    | cons _ _ => rfl

theorem dvTruthy_rel {a b : DV} (h : DVR a b) (ha : SolidDV a) (hb : SolidDV b) : dvTruthy a = dvTruthy b := by
  cases a with
  | emptyList => cases b with
    | emptyList => rfl
    | s y => exact h.elim
  | s x => cases b with
    | emptyList => exact h.elim
    | s y => exact congrArg not ((List.isEmpty_eq_false_iff.mpr ha.1).trans (List.isEmpty_eq_false_iff.mpr hb.1).symm)

theorem singleTruthy_rel {dA dB : List (Str × DV)} (hd : All2 DR dA dB) (s1 : ∀ kv ∈ dA, SolidDV kv.2)
    (s2 : ∀ kv ∈ dB, SolidDV kv.2) : singleTruthy dA = singleTruthy dB := by
  cases hd with
  | nil => rfl
  | cons hab hr =>
    cases hr with
    | cons _ _ => rfl
    | nil => exact dvTruthy_rel hab.2 (s1 _ List.mem_cons_self) (s2 _ List.mem_cons_self)

open Props.C07 in
theorem foldCond_rel (p1 p1' p2 p2' : Para) (h1 : PRel p1 p1') (h2 : PRel p2 p2') : foldCond p1 p2 = foldCond p1' p2' := by
  rw [foldCond_eq, foldCond_eq, ← h1.kind, ← h2.kind, ← dict_keys_rel p2 p2' h2]
  by_cases hk1 : p1.kind = .license
  · rw [h1.licEmpty hk1]
    by_cases hk2 : p2.kind = .catchall
    · rw [singleTruthy_rel h2.dict (h2.solid hk2).1 (h2.solid hk2).2]
    · simp only [hk2, decide_false, Bool.and_false, Bool.false_and]
  · simp only [hk1, decide_false, Bool.false_and]

open Props.C07 Props.C11W in
theorem fold_rel (p1 p1' p2 p2' : Para) (h1 : PRel p1 p1') (h2 : PRel p2 p2') (hc : foldCond p1 p2 = true)
    (text text' : Str) (rng rng' : Nat × Nat)
    (hd : toDict p2 = [(unknownName, XV.s text)]) (hd' : toDict p2' = [(unknownName, XV.s text')]) :
    PRel { setLicense p1 [] (some text) with lines := lset p1.lines "license".toList rng }
         { setLicense p1' [] (some text') with lines := lset p1'.lines "license".toList rng' } := by
  obtain ⟨hk, he, _, tx, hdx, ht⟩ := foldCond_inv hc
  obtain ⟨hk', he', _, tx', hdx', ht'⟩ := foldCond_inv (foldCond_rel p1 p1' p2 p2' h1 h2 ▸ hc)
  cases hd.symm.trans hdx
  cases hd'.symm.trans hdx'
  obtain ⟨c, hfA, hdA⟩ := toDict_folded p1 h1.shapeA hk he text (lset p1.lines "license".toList rng)
  obtain ⟨c', hfB, hdB⟩ := toDict_folded p1' h1.shapeB hk' he' text' (lset p1'.lines "license".toList rng')
  have hwt : words text = words text' := by
    have := h2.dict
    rw [hd, hd'] at this
    cases this with
    | cons hab _ => exact hab.2
  refine { kind := h1.kind, dict := ?_, lkeys := lset_keys _ _ _ _ _ h1.lkeys, licEmpty := fun _ => ?_,
           shapeA := fun _ => ⟨_, _, _, hfA⟩, shapeB := fun _ => ⟨_, _, _, hfB⟩,
           solid := fun hk0 => Kind.noConfusion (hk0.symm.trans hk) }
  · rw [hdA, hdB]
    exact All2.cons ⟨rfl, (words_license_text text).trans (hwt.trans (words_license_text text').symm)⟩
      (All2.cons ⟨rfl, rfl⟩ All2.nil)
  · rw [folded_not_empty p1 text c _ ht hfA, folded_not_empty p1' text' c' _ ht' hfB]

open Props.C07 Props.C11W in
theorem foldLoop_rel (psA psB : List Para) (h : All2 PRel psA psB) (b : Bool) (outA : List Para) (fp : Bool)
    (hA : foldLoop psA b = .ok (outA, fp)) : ∃ outB, foldLoop psB b = .ok (outB, fp) ∧ All2 PRel outA outB := by
  induction h generalizing b outA fp with
  | nil => cases Except.ok.inj hA; exact ⟨[], rfl, All2.nil⟩
  | @cons p1 p1' rest rest' h1 hrest ih =>
    cases hrest with
    | nil => cases Except.ok.inj hA; exact ⟨[], rfl, All2.nil⟩
    | @cons p2 p2' r r' h2 hr =>
      have hcr := foldCond_rel p1 p1' p2 p2' h1 h2
      rw [foldLoop_unfold, ← hcr]
      rcases foldLoop_cons_inv hA with ⟨rfl, hrec⟩ | ⟨rfl, hc, out2, hrec, rfl⟩ |
        ⟨rfl, hc, text, rng, out2, hd, hl, hrec, rfl⟩
      · exact ih false outA fp hrec
      · obtain ⟨outB, hB, hrel⟩ := ih false out2 fp hrec
        rw [if_neg Bool.false_ne_true, hc, if_neg Bool.false_ne_true, hB]
        exact ⟨_, rfl, All2.cons h1 hrel⟩
      · obtain ⟨outB, hB, hrel⟩ := ih true out2 fp hrec
        -- the second paragraph of the other run has the same shape
        obtain ⟨_, _, _, text', hd', _⟩ := foldCond_inv (hcr ▸ hc)
        have hs : (p2'.lines.lookup unknownName).isSome = true := by
          rw [lookup_isSome_eq, ← h2.lkeys, ← lookup_isSome_eq, hl]; rfl
        obtain ⟨rng', hl'⟩ := Option.isSome_iff_exists.mp hs
        rw [if_neg Bool.false_ne_true, hc, if_pos rfl, hd', hl', hB]
        exact ⟨_, rfl, All2.cons (fold_rel p1 p1' p2 p2' h1 h2 hc text text' rng rng' hd hd') hrel⟩

theorem foldLicense_rel (psA psB : List Para) (h : All2 PRel psA psB) (resA : List Para) (hA : foldLicense psA = .ok resA) :
    ∃ resB, foldLicense psB = .ok resB ∧ All2 PRel resA resB := by
  rcases Props.C07.foldLicense_inv hA with ⟨hl, rfl⟩ | ⟨hl, last, out, fp, hlast, hrec, rfl⟩
  · exact ⟨psB, Props.C07.foldLicense_short (h.length_eq ▸ hl), h⟩
  · obtain ⟨outB, hB, hrel⟩ := foldLoop_rel psA psB h false out fp hrec
    obtain ⟨lastB, hlastB, hlr⟩ := h.getLast_rel hlast
    rw [Props.C07.foldLicense_of_loop (h.length_eq ▸ Nat.lt_of_not_le hl) hB, hlastB]
    cases fp
    · exact ⟨_, rfl, hrel.append (All2.cons hlr All2.nil)⟩
    · exact ⟨_, rfl, hrel⟩

/-! ### the property -/

theorem fromFieldsGroups_rel (mk : Marked) (gs : List (List Fld))
    (hO : ∀ g ∈ gs, ∀ f ∈ g, OutF mk f ∧ rstripLines f.lines = f.lines) (psA : List Para)
    (hA : fromFieldsGroups gs = .ok psA) : ∃ psB, fromFieldsGroups (mapOut mk gs) = .ok psB ∧ All2 PRel psA psB := by
  obtain ⟨ps0A, ps1A, h0, hm, hf⟩ := Props.C07.fromFieldsGroups_inv hA
  cases (Props.C07.firstStage_eq gs).symm.trans h0
  have hr0 : All2 PRel (gs.map Props.C07.builtPara) ((mapOut mk gs).map Props.C07.builtPara) := by
    rw [mapOut, List.map_map]
    exact All2.map_same gs _ _ fun g hg => builtPara_rel mk g (hO g hg)
  obtain ⟨ps1B, hmB, hr1⟩ := mergeUnknown_rel _ _ hr0 ps1A hm
  rw [Props.C07.fromFieldsGroups_of (Props.C07.firstStage_eq _) hmB]
  exact foldLicense_rel ps1A ps1B hr1 psA hf

theorem sameWords_of (a b : DV) (h : DVR a b) : sameWords a b = true := by
  cases a with
  | s x =>
    cases b with
    | s y =>
      simp only [DVR] at h
      simp only [sameWords, h]
      exact Proofs.Words.sameMultiset_refl _
    | emptyList => exact h.elim
  | emptyList =>
    cases b with
    | s y => exact h.elim
    | emptyList => rfl

theorem sameParas_of (psA psB : List Para) (h : All2 PRel psA psB) :
    sameParas (psA.map Props.CopyrightObs.ofPara) (psB.map Props.CopyrightObs.ofPara) = true := by
  unfold sameParas
  simp only [Bool.and_eq_true, beq_iff_eq, List.length_map, List.all_eq_true]
  refine ⟨h.length_eq.symm, ?_⟩
  intro pq hpq
  rw [List.zip_map] at hpq
  obtain ⟨ab, hab, rfl⟩ := List.mem_map.mp hpq
  have hrel := h.of_mem_zip ab hab
  simp only [Props.CopyrightObs.ofPara, Prod.map]
  exact ⟨⟨hrel.kind, dict_keys_rel _ _ hrel⟩, fun kv hkv => sameWords_of _ _ (hrel.dict.of_mem_zip kv hkv).2⟩

/-- **C12, the copyright object** — in any well-formed document, replacing any admissible set of ` .` markers by empty or
white-space-only lines gives a copyright object with the same paragraphs, of the same classes, with the same keys and
the same words under every key -/
theorem paras_sound (i : Input) (h : wf i = true) :
    match (model i).orig.paras, (model i).blanked.paras with
    | .ok ps, .ok qs => sameParas ps qs = true
    | .error _, _ => True
    | _, .error _ => False := by
  obtain ⟨hA, hB, hinv⟩ := wf_noT_stInv i h
  have hok := itemsOK_of_wf i h 0 i.lines rfl
  have hsim := sim (mkOf i) (itemsFrom i 0 i.lines) 1 none hok hinv
  have hout := sim_out (mkOf i) (itemsFrom i 0 i.lines) 1 none hok hinv trivial
  rw [origOf_itemsFrom, mapSt] at hsim
  rw [origOf_itemsFrom] at hout
  simp only [model, side, fromText]
  rw [parse_render _ hA, parse_render _ hB, blankedLines_eq, hsim]
  cases hfa : fromFieldsGroups (go none (numberFrom 1 i.lines)) with
  | error e => trivial
  | ok psA =>
    -- the fields of the original run are what `rstrip` leaves (`go_A`)
    obtain ⟨psB, hfb, hrel⟩ := fromFieldsGroups_rel (mkOf i) _
      (fun g hg f hf => ⟨hout g hg f hf, (Props.C10R.go_A i.lines i.lines [] rfl none nofun g hg f hf).clean⟩) psA hfa
    rw [hfb]
    exact sameParas_of psA psB hrel

/-- **C12** — blanking any admissible set of ` .` markers changes neither what the line-tracking parser reports (but for
the text of those lines) nor the copyright object (classes, keys, words); that building the object does not raise is C07 -/
theorem sound (i : Input) : holdsOn i (model i) = true := by
  unfold holdsOn
  cases hw : wf i with
  | false => rfl
  | true =>
    simp only [Bool.not_true, Bool.false_or, Bool.and_eq_true, decide_eq_true_eq]
    refine ⟨groups_sound i hw, ?_⟩
    have hp := paras_sound i hw
    -- building the object never raises (C07)
    cases ho : (model i).orig.paras with
    | error e =>
      exfalso
      simp only [model, side] at ho
      have := Props.C07.fromText_ok (render i.lines)
      obtain ⟨ps, hps⟩ := this
      rw [hps] at ho; cases ho
    | ok ps =>
      rw [ho] at hp
      cases hb : (model i).blanked.paras with
      | error e => rw [hb] at hp; exact absurd hp (by simp)
      | ok qs => rw [hb] at hp; exact hp

end Props.C12P
