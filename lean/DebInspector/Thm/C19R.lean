/-
C19 — the render / read-back clause: for every paragraph of the class `wfR` (uniquely named fields, policy-legal names in
any case, trimmed values without carriage returns whose later lines are indented), the model of
`Debian822(Debian822(pairs).dumps()).to_dict()` is the paragraph itself under lower-cased names.

The rendering is a one-paragraph well-formed document of C06's grammar, so the header-parser theorem of C06
(`getParagraphData_para`) applies to it; what is proved here is that `dumps` produces such a document, that the
conventional capitalisation of a name lower-cases back to the name, and that the text is not taken for a signed message.
-/
import DebInspector.Thm.C19
import DebInspector.Thm.C08M

namespace Props.C19R
open Py Model.Control Props.C19 Props.C06H Proofs.LinesAscii

/-! ### characters of names -/

/-- a character of a policy-legal name: printable ASCII without space and colon -/
def P (c : Char) : Bool := 0x21 ≤ c.toNat && c.toNat ≤ 0x7e && c != ':'

theorem P_facts {c : Char} (h : P c = true) : inRange c = true ∧ c ≠ ':' ∧ isSpace c = false :=
  have hr := Props.C08M.inRange_of_printable h
  ⟨hr.1, hr.2, inRange_not_space hr.1⟩

theorem P_lower (c : Char) : P (lowerAsciiChar c) = P c := by
  have letter (d : Char) (h1 : 65 ≤ d.toNat) (h2 : d.toNat ≤ 122) : P d = true := by
    have : d ≠ ':' := by intro e; subst e; revert h1; decide
    simp only [P, Bool.and_eq_true, decide_eq_true_eq, bne_iff_ne]
    exact ⟨⟨by omega, by omega⟩, this⟩
  rcases lowerAsciiChar_cases c with h | ⟨h1, h2, h3⟩
  · rw [h]
  · rw [letter c (by omega) (by omega), letter _ (by omega) (by omega)]

theorem P_of_lower_eq (a b : Str) (h : lowerAscii a = lowerAscii b) (hb : ∀ c ∈ b, P c = true) : ∀ c ∈ a, P c = true := by
  induction a generalizing b with
  | nil => nofun
  | cons x xs ih =>
    cases b with
    | nil => cases h
    | cons y ys =>
      obtain ⟨h1, h2⟩ := List.cons.inj h
      refine List.forall_mem_cons.mpr ⟨?_, ih ys h2 fun c hc => hb c (List.mem_cons_of_mem _ hc)⟩
      rw [← P_lower, h1, P_lower]
      exact hb y (List.mem_cons_self ..)

/-! ### the conventional capitalisation lower-cases back -/

theorem lowerAscii_conventional (n : Str) : lowerAscii (conventional n) = lowerAscii n :=
  lower_conventional n

/-! ### the paragraph as fields of C06's grammar -/

def fieldOf (kv : Str × Str) : Props.C06.Field :=
  ⟨normalizeName kv.1, (splitChar '\n' kv.2).headD [], (splitChar '\n' kv.2).tail, [' ']⟩

theorem dumps_eq (d : PyDict) :
    dumps822 d = Props.C06.joinNl ((d.map fieldOf).flatMap Props.C06.fieldLines) ++ ['\n'] := by
  have := Props.C08M.joinNl_fields (d.map fun kv => (normalizeName kv.1, kv.2))
  rw [List.map_map, List.map_map] at this
  rw [dumps822, ← Props.C06.joinNl_eq_join]
  exact congrArg (· ++ ['\n']) this.symm

/-! ### facts about a name and a value of the class -/

theorem name_facts (k : Str) (hk : nameOkR k = true) :
    let N := normalizeName (lowerAscii k)
    N ≠ [] ∧ (∀ c ∈ N, P c = true) ∧ lowerAscii N = lowerAscii k ∧ (∀ c ∈ N.head?, c ≠ '-') := by
  simp only [nameOkR, Bool.and_eq_true, List.all_eq_true] at hk
  obtain ⟨hhead, hall0⟩ := hk
  have hall : ∀ c ∈ k, P c = true := fun c hc => by
    have := hall0 c hc
    simp only [P, Bool.and_eq_true]
    exact this
  have hl : lowerAscii (normalizeName (lowerAscii k)) = lowerAscii k := by
    rw [normalize_eq_conventional, lowerAscii_conventional, lowerAscii_lower]
  obtain ⟨y, ys, rfl⟩ : ∃ y ys, k = y :: ys := by
    cases k with
    | nil => cases hhead
    | cons y ys => exact ⟨y, ys, rfl⟩
  cases hN : normalizeName (lowerAscii (y :: ys)) with
  | nil => rw [hN] at hl; cases hl
  | cons x xs =>
    rw [hN] at hl
    refine ⟨List.cons_ne_nil _ _, P_of_lower_eq _ _ hl hall, hl, fun c hc e => ?_⟩
    -- the first characters agree up to case, and case does not make a hyphen
    rw [← Option.some.inj hc] at e
    have h1 := lowerAsciiChar_beq_dash x
    rw [(List.cons.inj hl).1, lowerAsciiChar_beq_dash y, e] at h1
    have hy : y = '-' := by simpa using h1
    rw [hy] at hhead
    cases hhead

/-- what `valueOkR` says of a value -/
structure VF (v : Str) : Prop where
  noCr : '\r' ∉ v
  head : headP isSpace v = false
  last : lastP isSpace v = false
  conts : ∀ l ∈ (splitChar '\n' v).tail, headP (fun c => c = ' ' || c = '\t') l = true

theorem value_facts (v : Str) (h : valueOkR v = true) : VF v := by
  simp only [valueOkR, Bool.and_eq_true, Bool.not_eq_true', List.all_eq_true] at h
  obtain ⟨⟨⟨h1, h2⟩, h3⟩, h4⟩ := h
  refine ⟨fun hm => ?_, h2, h3, fun l hl => ?_⟩
  · rw [List.contains_iff_mem.mpr hm] at h1
    cases h1
  · have := h4 l hl
    cases l with
    | nil => cases this
    | cons c cs => simpa [headP] using this

/-- the field of one pair of the class: what C06's header-parser theorem asks of a field, and of its lines -/
theorem field_facts (k v : Str) (hk : nameOkR k = true) (hv : valueOkR v = true) :
    HF (fieldOf (lowerAscii k, v)) ∧ (∀ l ∈ Props.C06.fieldLines (fieldOf (lowerAscii k, v)), NoT l ∧ l ≠ []) := by
  obtain ⟨hN, hNP, _, _⟩ := name_facts k hk
  have vf := value_facts v hv
  refine Props.C08M.fieldOf_facts _ v hN (fun c hc => ⟨(P_facts (hNP c hc)).1, (P_facts (hNP c hc)).2.1⟩)
    (fun l hl hm => vf.noCr (mem_of_mem_splitChar '\n' v l hl _ hm)) ?_ vf.conts
  -- the first line of the value does not start with a blank: it starts the value
  by_cases h : (splitChar '\n' v).headD [] = []
  · rw [h]; rfl
  · rw [Props.C08M.headP_first isSpace v h]; exact vf.head

/-! ### the mapping built from distinct names -/

theorem dset_eq_lset (d : PyDict) (k v : Str) : Model.Control.dset d k v = Model.Copyright.lset d k v := by
  induction d with
  | nil => rfl
  | cons kv rest ih => simp only [Model.Control.dset, Model.Copyright.lset, ih]

theorem construct_distinct (i : InputR) (h : distinctLower i = true) :
    construct lowerAscii (.pairs i) = i.map fun kv => (lowerAscii kv.1, kv.2) := by
  simp only [distinctLower, beq_iff_eq] at h
  have hnd := (Props.C08.nodup_of_length_foldl_addNew (i.map fun kv : Str × Str => lowerAscii kv.1) []
    (h.symm.trans (Nat.zero_add _).symm)).1
  have := Proofs.Assoc.fold_lset_fresh i (fun kv => lowerAscii kv.1) (·.2) [] hnd fun _ _ => nofun
  simpa only [construct, dictOf, dset_eq_lset, List.nil_append] using this

/-! ### the rendering is not taken for a signed message -/

/-- a text that starts with neither white space nor `-` is not taken for a signed message -/
theorem removeSignature_of_head (c : Char) (rest : Str) (hsp : isSpace c = false) (hd : c ≠ '-') :
    Model.Unsign.removeSignature (c :: rest) = c :: rest := by
  obtain ⟨r, hr⟩ : ∃ r, strip (c :: rest) = c :: r := by
    unfold strip
    rw [lstrip_cons_nonspace c rest hsp]
    exact ⟨_, rstrip_cons_of_nonblank c rest (by rw [isBlank_cons, hsp]; rfl)⟩
  have hbegin : startsWith (c :: r) Model.Unsign.beginSigned = false := by
    obtain ⟨ds, hb⟩ : ∃ ds, Model.Unsign.beginSigned = '-' :: ds := by
      -- the literal as a character list: the kernel would otherwise encode it to UTF-8 and decode it again
      unfold Model.Unsign.beginSigned
      rw [String.toList_ofList]
      exact ⟨_, rfl⟩
    simp [hb, startsWith, hd]
  have hs : Model.Unsign.isSigned (c :: rest) = false := by
    simp [Model.Unsign.isSigned, hr, hbegin]
  simp [Model.Unsign.removeSignature, hs]

theorem not_signed (c : Char) (rest : Str) (hc : P c = true) (hd : c ≠ '-') :
    Model.Unsign.removeSignature (c :: rest) = c :: rest :=
  removeSignature_of_head c rest (P_facts hc).2.2 hd

theorem fromText822_unsigned (t : Str) (c : Char) (h : t.head? = some c) (hsp : isSpace c = false) (hd : c ≠ '-') :
    fromText822 t = Model.Email.getParagraphData t := by
  cases t with
  | nil => cases h
  | cons a rest =>
    cases Option.some.inj h
    rw [fromText822, List.isEmpty_cons, if_neg nofun, fromTextNonEmpty, removeSignature_of_head c rest hsp hd]

/-! ### the clause -/

/-- **render and read back**: for every paragraph of the class, the model of
`Debian822(Debian822(pairs).dumps()).to_dict()` is the paragraph under lower-cased names -/
theorem soundR (i : InputR) : holdsOnR i (modelR i) = true := by
  unfold holdsOnR modelR
  cases hw : wfR i with
  | false => rfl
  | true =>
    simp only [wfR, Bool.and_eq_true, Bool.not_eq_true', List.isEmpty_eq_false_iff, List.all_eq_true] at hw
    obtain ⟨⟨hne, hall⟩, hdist⟩ := hw
    refine decide_eq_true (congrArg Except.ok ?_)
    rw [construct_distinct i hdist, dumps_eq, List.map_map]
    have hname := fun (kv : Str × Str) (hkv : kv ∈ i) => name_facts kv.1 (hall kv hkv).1
    have hfacts := fun (kv : Str × Str) (hkv : kv ∈ i) => field_facts kv.1 kv.2 (hall kv hkv).1 (hall kv hkv).2
    have hkey : ∀ kv ∈ i, strip (lowerAscii (normalizeName (lowerAscii kv.1))) = lowerAscii kv.1 := fun kv hkv => by
      rw [strip_lower_name _ (fun c hc => (P_facts ((hname kv hkv).2.1 c hc)).1), (hname kv hkv).2.2.1]
    simp only [distinctLower, beq_iff_eq, List.length_map] at hdist
    have hpara := getParagraphData_para (i.map (fieldOf ∘ fun kv : Str × Str => (lowerAscii kv.1, kv.2))) true (by simpa using hne)
      (List.forall_mem_map.mpr fun kv hkv => (hfacts kv hkv).1)
      (fun l hl => by
        obtain ⟨f, hf, hlf⟩ := List.mem_flatMap.mp hl
        obtain ⟨kv, hkv, rfl⟩ := List.mem_map.mp hf
        exact (hfacts kv hkv).2 l hlf)
      (by rw [List.map_map, List.length_map, List.map_congr_left (g := fun kv => lowerAscii kv.1) hkey]
          exact hdist.symm)
    rw [if_pos rfl] at hpara
    -- the text starts with the first character of the first name
    obtain ⟨kv0, irest, hi0⟩ := List.exists_cons_of_ne_nil hne
    obtain ⟨hN0, hNP0, _, hhd0⟩ := hname kv0 (hi0 ▸ List.mem_cons_self ..)
    obtain ⟨c0, cs0, hc0⟩ := List.exists_cons_of_ne_nil hN0
    rw [fromText822_unsigned _ c0 ?_ (P_facts (hNP0 c0 (hc0 ▸ List.mem_cons_self ..))).2.2 (hhd0 c0 (hc0 ▸ rfl)), hpara, List.map_map]
    · refine List.map_congr_left fun kv hkv => ?_
      simp only [Function.comp, fieldOf]
      have vf := value_facts kv.2 (hall kv hkv).2
      rw [hkey kv hkv, Props.C08M.joinNl_lines, strip_of_head_last vf.head vf.last]
    · rw [List.head?_append, hi0]
      simp only [List.map_cons, List.flatMap_cons, Function.comp, Props.C06.fieldLines_eq, Props.C06.declLine, fieldOf, hc0,
        List.cons_append, head_joinNl_cons]
      rfl

/-- the class is inhabited: mixed-case names, a multi-line value, a value that looks like an armor line -/
example : wfR [("Package".toList, "foo".toList), ("X-SHA1-sum".toList, "a: b\n  two\n .".toList),
    ("dEPENDS".toList, "-----BEGIN PGP SIGNED MESSAGE-----".toList), ("empty".toList, []), ("X_Foo".toList, "v".toList),
    ("2a.b+c/d".toList, "w".toList)] = true := by
  repeat rw [String.toList_ofList]
  decide +kernel

end Props.C19R
