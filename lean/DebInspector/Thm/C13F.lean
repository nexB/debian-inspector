/-
C13 — the fixpoint, field level: the text `dumps` gives for the typed value of a field is the raw value of a
*canonical* field of the same grammar, which spells the same typed value.
-/
import DebInspector.Thm.C09G
import DebInspector.Thm.C19
import DebInspector.Props.C13

namespace Props.C13F
open Py Model.Deb822 Model.Debcon Model.Copyright Props.C09 Props.C09G Proofs.Splitlines
-- `joinNl` is that of `Model.Debcon`; the grammar has a copy, `Dep5.joinNl` (`joinNl_eq`)
open Props.Dep5 hiding joinNl

/-! ### trimmed values -/

theorem strip_joinNl (x : Str) (xs : List Str) (hx : x ≠ []) (hh : headP isSpace x = false)
    (hl : ∀ l ∈ (x :: xs).getLast?, l ≠ [] ∧ lastP isSpace l = false) :
    strip (joinNl (x :: xs)) = joinNl (x :: xs) := by
  apply strip_trimmed
  rw [trimmed_iff, joinNl_headP _ _ _ hx, lastP_joinNl _ _ _ (fun l h => (hl l h).1)]
  exact ⟨hh, (hl _ (List.getLast?_eq_some_getLast (by simp))).2⟩

theorem nonblank_trimmed (s : Str) (hne : s ≠ []) (htr : trimmed s = true) : isBlank s = false :=
  isBlank_of_last ((trimmed_iff s).mp htr).2 hne

theorem encLine_nonblank (s : Str) (h : isBlank s = false) : encLine s = s := by
  simp only [encLine, h, Bool.false_eq_true, if_false]

/-! ### continuation lines and text blocks -/

/-- what `tlineOk l` gives about a continuation line: its raw form is a blank and its encoded content; the decoded line
has no line boundary inside; unless it is the `.` line (kind 1) it is not empty and does not end in white space -/
structure LFacts (l : TLine) : Prop where
  enc : ' ' :: encLine (decodeLine l) = rawLine l
  decNoB : NoB (decodeLine l)
  decNe : l.kind ≠ 1 → decodeLine l ≠ []
  rawLast : l.kind ≠ 1 → lastP isSpace (rawLine l) = false

theorem line_facts (l : TLine) (h : tlineOk l = true) : LFacts l := by
  rcases tline_cases l h with ⟨hk, hne, hpl, htr, _⟩ | ⟨hk, _⟩ | ⟨hk, hne, hpl, hl⟩
  · have hraw : rawLine l = ' ' :: l.content := by simp only [rawLine, hk]
    have hdec : decodeLine l = l.content := by simp only [decodeLine, hk]
    refine ⟨?_, ?_, fun _ => ?_, fun _ => ?_⟩
    · rw [hraw, hdec, encLine_nonblank _ (nonblank_trimmed _ hne htr)]
    · rw [hdec]; exact plain_noB _ hpl
    · rw [hdec]; exact hne
    · rw [hraw, lastP_cons_ne_nil _ _ _ hne]; exact ((trimmed_iff _).mp htr).2
  · have hraw : rawLine l = [' ', '.'] := by simp only [rawLine, hk]
    have hdec : decodeLine l = [] := by simp only [decodeLine, hk]
    refine ⟨?_, ?_, fun h1 => absurd hk h1, fun h1 => absurd hk h1⟩
    · rw [hraw, hdec]; rfl
    · rw [hdec]; exact fun c hc => nomatch hc
  · have hraw : rawLine l = ' ' :: ' ' :: l.content := by simp only [rawLine, hk]
    have hdec : decodeLine l = ' ' :: l.content := by simp only [decodeLine, hk]
    have hl' : lastP isSpace (' ' :: l.content) = false := by rw [lastP_cons_ne_nil _ _ _ hne]; exact hl
    refine ⟨?_, ?_, fun _ => ?_, fun _ => ?_⟩
    · rw [hraw, hdec, encLine_nonblank _ (isBlank_of_last hl' (by simp))]
    · rw [hdec]
      intro c hc
      rcases List.mem_cons.mp hc with rfl | hc
      · exact sp_not_boundary
      · exact plain_noB _ hpl c hc
    · rw [hdec]; simp
    · rw [hraw, lastP_cons_ne_nil _ _ _ (by simp)]; exact hl'

/-- a text that starts on the declaration line: its first line and its continuation lines -/
structure TextOk (x : Str) (ls : List TLine) : Prop where
  ne : x ≠ []
  pl : plain x = true
  tr : trimmed x = true
  all : ∀ l ∈ ls, tlineOk l = true
  last : ∀ l ∈ ls.getLast?, l.kind ≠ 1

theorem splitlines_block (x : Str) (ls : List TLine) (h : TextOk x ls) :
    splitlines (joinNl (x :: ls.map decodeLine)) = x :: ls.map decodeLine := by
  rw [splitlines_joinNl _ (by
    intro l hl
    rcases List.mem_cons.mp hl with rfl | hl
    · exact plain_noB _ h.pl
    · obtain ⟨t, ht, rfl⟩ := List.mem_map.mp hl
      exact (line_facts t (h.all t ht)).decNoB)]
  apply dropLastEmpty_id
  intro l hl
  rcases Proofs.Assoc.getLast_cons_map _ _ _ l hl with ⟨_, rfl⟩ | ⟨u, hu, rfl⟩
  · exact h.ne
  · exact (line_facts u (h.all u (List.mem_of_getLast? hu))).decNe (h.last u hu)

theorem fmt_block (x : Str) (ls : List TLine) (h : TextOk x ls) :
    asFormattedLines (splitlines (joinNl (x :: ls.map decodeLine))) = joinNl (x :: ls.map rawLine) := by
  have henc : ((ls.map decodeLine).map encLine).map (' ' :: ·) = ls.map rawLine := by
    rw [List.map_map, List.map_map]
    exact List.map_congr_left fun l hl => (line_facts l (h.all l hl)).enc
  rw [splitlines_block x ls h, asFormattedLines, List.map_cons, joinNlSp_eq, henc, encLine_nonblank _ (nonblank_trimmed _ h.ne h.tr)]

theorem strip_text (x : Str) (ls : List TLine) (h : TextOk x ls) :
    strip (joinNl (x :: ls.map rawLine)) = joinNl (x :: ls.map rawLine) := by
  have htr := (trimmed_iff x).mp h.tr
  apply strip_joinNl _ _ h.ne htr.1
  intro l hl
  rcases Proofs.Assoc.getLast_cons_map _ _ _ l hl with ⟨_, rfl⟩ | ⟨u, hu, rfl⟩
  · exact ⟨h.ne, htr.2⟩
  · exact ⟨rawLine_ne u, (line_facts u (h.all u (List.mem_of_getLast? hu))).rawLast (h.last u hu)⟩

theorem text_nonempty_unindented (x : Str) (ls : List TLine) (h : TextOk x ls) :
    (joinNl (x :: ls.map decodeLine)).isEmpty = false ∧
    startsWith (joinNl (x :: ls.map decodeLine)) [' '] = false :=
  ⟨List.isEmpty_eq_false_iff.mpr (joinNl_ne_nil' x _ h.ne),
   startsWith_sp_of_head _ (by rw [joinNl_headP _ _ _ h.ne]; exact ((trimmed_iff x).mp h.tr).1)⟩

theorem dumps_text (x : Str) (ls : List TLine) (h : TextOk x ls) :
    dumps (.formatted (some (joinNl (x :: ls.map decodeLine)))) = joinNl (x :: ls.map rawLine) := by
  simp only [dumps, Option.getD_some, lineSeparated, (text_nonempty_unindented x ls h).1, Bool.false_eq_true, if_false]
  rw [fmt_block x ls h, splitlines_block x ls h]
  rfl

theorem last_of_match (ls : List TLine) (h : (match ls.getLast? with | some l => l.kind != 1 | none => true) = true) :
    ∀ l ∈ ls.getLast?, l.kind ≠ 1 := by
  intro l hl
  rw [show ls.getLast? = some l from hl] at h
  simpa using h

theorem blockOk_lines (ls : List TLine) (h : blockOk ls = true) :
    (∀ l ∈ ls, tlineOk l = true) ∧ ∀ l ∈ ls.getLast?, l.kind ≠ 1 := by
  simp only [blockOk, Bool.and_eq_true, List.all_eq_true] at h
  exact ⟨h.1.1, last_of_match ls h.2⟩

theorem block_cons (t : TLine) (ts : List TLine) (h : blockOk (t :: ts) = true) :
    rawLine t = ' ' :: t.content ∧ decodeLine t = t.content ∧ TextOk t.content ts := by
  obtain ⟨hlines, hend⟩ := blockOk_lines _ h
  have hk : t.kind = 0 := by
    simp only [blockOk, Bool.and_eq_true] at h
    simpa using h.1.2
  have hall : ∀ l ∈ ts, tlineOk l = true := fun l hl => hlines l (List.mem_cons_of_mem _ hl)
  have hlast : ∀ l ∈ ts.getLast?, l.kind ≠ 1 := fun l hl =>
    hend l (by rw [List.getLast?_cons, Option.mem_def.mp hl]; rfl)
  rcases tline_cases t (hlines t (List.mem_cons_self ..)) with ⟨_, hne, hpl, htr, _⟩ | ⟨hk1, _⟩ | ⟨hk2, _⟩
  · exact ⟨by simp only [rawLine, hk], by simp only [decodeLine, hk], hne, hpl, htr, hall, hlast⟩
  · omega
  · omega

/-! ### statements, `canonField` -/

theorem statementDumps_split (s : Str) (h : SS s) : statementDumps (splitStatement s) = s := by
  have hst : strip s = s := strip_trimmed _ h.tr
  unfold splitStatement
  cases hsp : splitChar ' ' s with
  | nil => exact absurd hsp (splitChar_ne_nil ' ' s)
  | cons w rest =>
    simp only
    by_cases hy : isYearSpec w = true
    · simp only [hy, if_true, statementDumps]
      have hwne : w.isEmpty = false := by
        unfold isYearSpec at hy
        simp only [Bool.and_eq_true, Bool.not_eq_true'] at hy
        exact hy.1
      simp only [hwne, Bool.false_eq_true, if_false]
      have hj : join [' '] (w :: rest) = s := by rw [← hsp]; exact join_splitChar ' ' s
      cases rest with
      | nil =>
        have : w = s := hj
        subst this
        simp only [splitStatement.joinSp]
        rw [strip_suffix_space w [' '] (by intro c hc; rw [List.mem_singleton.mp hc]; rfl)]
        exact hst
      | cons r rs =>
        rw [joinSp_eq]
        have : w ++ ' ' :: join [' '] (r :: rs) = join [' '] (w :: r :: rs) := by simp [join]
        rw [this, hj]
        exact hst
    · simp only [hy, Bool.false_eq_true, if_false, statementDumps]
      exact hst

/-- the eleven blanks that `CopyrightStatementField.dumps` puts after each line break are the blank every raw
continuation line starts with and ten more -/
theorem copyrightJoin_eq : copyrightJoin = '\n' :: ' ' :: List.replicate 10 ' ' := by decide

theorem join_copyright (x : Str) (xs : List Str) :
    join copyrightJoin (x :: xs) = joinNl (x :: xs.map fun s => ' ' :: (List.replicate 10 ' ' ++ s)) := by
  rw [copyrightJoin_eq, joinNl_eq_join]
  exact join_pad ['\n'] (' ' :: List.replicate 10 ' ') x xs

def canonLabel (f : Field) : Str := Model.Control.normalizeName (normLabel f.label)

def wordsOf (f : Field) : List Str := splitChar ' ' f.first ++ f.conts.flatMap fun l => splitChar ' ' (itemText l)

def stmtLine (l : TLine) : TLine := ⟨3, List.replicate 10 ' ' ++ itemText l⟩

/-- the field as `dumps` writes it: conventional name; one list item per line; statements aligned under the
first; a text always starts on the declaration line -/
def canonField (f : Field) : Field :=
  match f.kind with
  | 1 => ⟨canonLabel f, 1, (wordsOf f).headD [], (wordsOf f).tail.map fun w => ⟨3, w⟩⟩
  | 2 => ⟨canonLabel f, 2, f.first, f.conts.map stmtLine⟩
  | 4 =>
    if f.first.isEmpty then
      match f.conts with
      | t :: ts => ⟨canonLabel f, 4, t.content, ts⟩
      | [] => ⟨canonLabel f, 4, [], []⟩
    else ⟨canonLabel f, 4, f.first, f.conts⟩
  | _ => ⟨canonLabel f, f.kind, f.first, f.conts⟩

theorem canon_kind (f : Field) : (canonField f).kind = f.kind := by
  unfold canonField
  split
  · next h => exact h.symm
  · next h => exact h.symm
  · next h =>
    split
    · split <;> exact h.symm
    · exact h.symm
  · rfl

theorem canon_label (f : Field) : (canonField f).label = canonLabel f := by
  unfold canonField
  split
  · rfl
  · rfl
  · split
    · split <;> rfl
    · rfl
  · rfl

theorem canon_relabel (f : Field) (k : Nat) (hk : f.kind = k) (hne : k ≠ 1 ∧ k ≠ 2 ∧ k ≠ 4) :
    canonField f = ⟨canonLabel f, f.kind, f.first, f.conts⟩ := by
  subst hk
  unfold canonField
  split
  · next h1 => exact absurd h1 hne.1
  · next h2 => exact absurd h2 hne.2.1
  · next h4 => exact absurd h4 hne.2.2
  · rfl

theorem canon_ws (f : Field) (hk : f.kind = 1) (w : Str) (ws : List Str) (hw : wordsOf f = w :: ws) :
    canonField f = ⟨canonLabel f, 1, w, ws.map fun w => ⟨3, w⟩⟩ := by
  simp only [canonField, hk, hw, List.headD_cons, List.tail_cons]

theorem canon_stmts (f : Field) (hk : f.kind = 2) : canonField f = ⟨canonLabel f, 2, f.first, f.conts.map stmtLine⟩ := by
  simp only [canonField, hk]

theorem canon_text_moved (f : Field) (hk : f.kind = 4) (hfe : f.first = []) (t : TLine) (ts : List TLine) (hc : f.conts = t :: ts) :
    canonField f = ⟨canonLabel f, 4, t.content, ts⟩ := by
  simp only [canonField, hk, hfe, hc, List.isEmpty_nil, if_true]

theorem canon_text_kept (f : Field) (hk : f.kind = 4) (hfe : f.first ≠ []) : canonField f = ⟨canonLabel f, 4, f.first, f.conts⟩ := by
  simp only [canonField, hk, List.isEmpty_eq_false_iff.mpr hfe, Bool.false_eq_true, if_false]

theorem canon_extra (f : Field) (hk : f.kind = 5) : (canonField f).first = f.first ∧ (canonField f).conts = f.conts := by
  rw [canon_relabel f 5 hk (by decide)]
  exact ⟨rfl, rfl⟩

/-! ### `dumps` of the typed value, kind by kind -/

theorem words_ne (f : Field) : wordsOf f ≠ [] :=
  fun h => splitChar_ne_nil ' ' f.first (List.append_eq_nil_iff.mp h).1

theorem dumps_single (f : Field) (hk : f.kind = 0) (h : fieldOk f = true) :
    dumps (expectedFV f) = rawVal (canonField f) := by
  simp only [fieldOk, hk, Bool.and_eq_true, List.isEmpty_iff] at h
  rw [canon_relabel f 0 hk (by decide)]
  simp only [expectedFV, hk, dumps, rawVal, h.2.2, List.map_nil, joinNl, Option.getD_some]

theorem dumps_wsSep (f : Field) (hk : f.kind = 1) :
    dumps (expectedFV f) = rawVal (canonField f) := by
  have he : expectedFV f = .wsSep (wordsOf f) := by simp only [expectedFV, hk, wordsOf]
  obtain ⟨w, ws, hw⟩ := List.exists_cons_of_ne_nil (words_ne f)
  rw [he, hw, canon_ws f hk w ws hw, dumps, joinNlSp_eq, rawVal, List.map_map]
  rfl

theorem dumps_lineSep (f : Field) (hk : f.kind = 6) (h : fieldOk f = true) :
    dumps (expectedFV f) = rawVal (canonField f) := by
  simp only [fieldOk, hk, Bool.and_eq_true, List.all_eq_true, beq_iff_eq] at h
  have he : expectedFV f = .lineSep (f.first :: f.conts.map (·.content)) := by simp only [expectedFV, hk]
  rw [he, canon_relabel f 6 hk (by decide), dumps, joinNlSp_eq, rawVal, List.map_map]
  congr 2
  apply List.map_congr_left
  intro l hl
  simp only [Function.comp, rawLine, (h.2.2 l hl).1]

theorem dumps_copyright (f : Field) (hk : f.kind = 2) (h : fieldOk f = true) :
    dumps (expectedFV f) = rawVal (canonField f) := by
  simp only [fieldOk, hk, Bool.and_eq_true, List.all_eq_true] at h
  obtain ⟨_, hfirst, hconts⟩ := h
  have hssf := ss_of _ hfirst
  have hss : ∀ l ∈ f.conts, SS (itemText l) := fun l hl => (item_facts l (hconts l hl)).ss
  have he : expectedFV f = .copyright ((f.first :: f.conts.map itemText).map splitStatement) := by simp only [expectedFV, hk]
  have hmap : (f.first :: f.conts.map itemText).map (statementDumps ∘ splitStatement) = f.first :: f.conts.map itemText := by
    rw [List.map_cons, List.map_map, Function.comp, statementDumps_split _ hssf]
    congr 1
    exact List.map_congr_left fun l hl => statementDumps_split _ (hss l hl)
  have hraw : rawVal (canonField f) =
      joinNl (f.first :: (f.conts.map itemText).map fun s => ' ' :: (List.replicate 10 ' ' ++ s)) := by
    rw [canon_stmts f hk, rawVal, List.map_map, List.map_map]
    rfl
  rw [he, dumps, List.map_map, hmap, join_copyright, hraw]
  have htr := (trimmed_iff _).mp hssf.tr
  apply strip_joinNl _ _ hssf.ne htr.1
  intro l hl
  rw [List.map_map] at hl
  rcases Proofs.Assoc.getLast_cons_map _ _ _ l hl with ⟨_, rfl⟩ | ⟨u, hu, rfl⟩
  · exact ⟨hssf.ne, htr.2⟩
  · have hu := hss u (List.mem_of_getLast? hu)
    refine ⟨by simp, ?_⟩
    simp only [Function.comp]
    rw [lastP_cons_ne_nil _ _ _ (by simp), lastP_append_ne _ _ _ hu.ne]
    exact ((trimmed_iff _).mp hu.tr).2

theorem dumps_license (f : Field) (hk : f.kind = 3) (h : fieldOk f = true) :
    dumps (expectedFV f) = rawVal (canonField f) := by
  simp only [fieldOk, hk, Bool.and_eq_true, Bool.not_eq_true', List.isEmpty_eq_false_iff] at h
  obtain ⟨⟨⟨_, hpl⟩, htrim⟩, hfne, hblock⟩ := h
  have hst : strip f.first = f.first := strip_trimmed _ htrim
  rw [canon_relabel f 3 hk (by decide), rawVal]
  cases hc : f.conts with
  | nil =>
    simp only [expectedFV, hk, hc, dumps, licenseDumps, descriptionDumps, hst, List.isEmpty_nil, if_true, List.map_nil,
      joinNl]
  | cons t ts =>
    rw [hc] at hblock
    obtain ⟨hrawt, hdect, htx⟩ := block_cons t ts hblock
    obtain ⟨htne, hsw⟩ := text_nonempty_unindented _ _ htx
    have he : expectedFV f = .license f.first (some (joinNl (t.content :: ts.map decodeLine))) := by
      simp only [expectedFV, hk, hc, joinNl_eq, List.map_cons, hdect, List.isEmpty_cons, Bool.false_eq_true, if_false]
    simp only [he, dumps, licenseDumps, descriptionDumps, hst, htne, Bool.false_eq_true, if_false, hsw, asFormattedText]
    rw [fmt_block t.content ts htx, ← joinNl_cons_sp, ← hrawt, ← joinNl_cons2, ← List.map_cons]
    exact strip_text f.first (t :: ts) ⟨hfne, hpl, htrim, (blockOk_lines _ hblock).1, (blockOk_lines _ hblock).2⟩

theorem formatted_canon (f : Field) (hk : f.kind = 4) (h : fieldOk f = true) :
    ∃ x ls, canonField f = ⟨canonLabel f, 4, x, ls⟩ ∧ TextOk x ls ∧
      expectedFV f = .formatted (some (joinNl (x :: ls.map decodeLine))) := by
  have hall := formatted_conts_ok f hk h
  simp only [fieldOk, hk, Bool.and_eq_true, Bool.not_eq_true', Bool.or_eq_true, List.isEmpty_eq_false_iff] at h
  obtain ⟨⟨⟨_, hpl⟩, htrim⟩, hblock, hsome⟩ := h
  by_cases hfe : f.first = []
  · rw [hfe, List.isEmpty_nil, if_pos rfl] at hblock
    cases hc : f.conts with
    | nil => exact absurd hc (hsome.resolve_left (fun h => h hfe))
    | cons t ts =>
      rw [hc] at hblock
      obtain ⟨_, hdect, htx⟩ := block_cons t ts hblock
      refine ⟨t.content, ts, canon_text_moved f hk hfe t ts hc, htx, ?_⟩
      simp only [expectedFV, hk, hfe, hc, joinNl_eq, List.isEmpty_nil, if_true, List.nil_append, List.map_cons, hdect]
  · have hfie : f.first.isEmpty = false := List.isEmpty_eq_false_iff.mpr hfe
    rw [hfie, if_neg Bool.false_ne_true, bodyOk, Bool.and_eq_true] at hblock
    refine ⟨f.first, f.conts, ?_, ⟨hfe, hpl, htrim, hall, last_of_match _ hblock.2⟩, ?_⟩
    · exact canon_text_kept f hk hfe
    · simp only [expectedFV, hk, hfie, joinNl_eq, Bool.false_eq_true, if_false, List.singleton_append]

theorem dumps_formatted (f : Field) (hk : f.kind = 4) (h : fieldOk f = true) :
    dumps (expectedFV f) = rawVal (canonField f) := by
  obtain ⟨x, ls, hc, htx, he⟩ := formatted_canon f hk h
  rw [hc, he]
  exact dumps_text x ls htx

/-- **every typed field is rendered as the raw value of its canonical field** -/
theorem dumps_eq (f : Field) (h : fieldOk f = true) (h5 : f.kind ≠ 5) : dumps (expectedFV f) = rawVal (canonField f) := by
  rcases kind_cases f h with hk | hk | hk | hk | hk | hk | hk
  · exact dumps_single f hk h
  · exact dumps_wsSep f hk
  · exact dumps_copyright f hk h
  · exact dumps_license f hk h
  · exact dumps_formatted f hk h
  · exact absurd hk h5
  · exact dumps_lineSep f hk h

/-! ### the canonical field is a field of the grammar and spells the same value -/

theorem license_ne : licenseS ≠ licenceS := by decide
theorem lower_licenseS : lowerAscii licenseS = licenseS := by decide

theorem lower_normLabel (s : Str) : lowerAscii (normLabel s) = normLabel s := by
  rw [normLabel_def]
  split
  · exact lower_licenseS
  · exact lowerAscii_lower s

theorem normLabel_ne_licence (s : Str) : normLabel s ≠ licenceS := by
  rw [normLabel_def]
  split
  · exact license_ne
  · assumption

theorem lowerAscii_normalizeName (s : Str) : lowerAscii (Model.Control.normalizeName s) = lowerAscii s := by
  rw [Props.C19.normalize_eq_conventional, Props.C19.lower_conventional]

theorem lower_canonLabel (f : Field) : lowerAscii (canonLabel f) = normLabel f.label := by
  rw [canonLabel, lowerAscii_normalizeName, lower_normLabel]

theorem normLabel_canon (f : Field) : normLabel (canonLabel f) = normLabel f.label := by
  rw [normLabel_def (canonLabel f), lower_canonLabel, if_neg (normLabel_ne_licence f.label)]

theorem canon_label_shape (f : Field) (h : labelOk f = true) :
    headP isAsciiAlpha (canonLabel f) = true ∧ (canonLabel f).all (fun c => isAsciiAlnum c || c == '-') = true := by
  have hn := normLabel_shape f.label (labelOk_shape f h).1 (labelOk_shape f h).2
  rwa [← lower_canonLabel f, headP_lower isAsciiAlpha isAsciiAlpha_lower, all_lower (fun c => isAsciiAlnum c || c == '-') nameCh_lower] at hn

theorem labelOk_congr (f g : Field) (hk : g.kind = f.kind) (hn : normLabel g.label = normLabel f.label)
    (hs : headP isAsciiAlpha g.label = true ∧ g.label.all (fun c => isAsciiAlnum c || c == '-') = true)
    (h : labelOk f = true) : labelOk g = true := by
  rw [labelOk, Bool.and_eq_true, Bool.and_eq_true] at h ⊢
  rw [hk, hn]
  exact ⟨hs, h.2⟩

theorem labelOk_canon (f : Field) (h : labelOk f = true) : labelOk (canonField f) = true :=
  labelOk_congr f _ (canon_kind f) (by rw [canon_label, normLabel_canon]) (by rw [canon_label]; exact canon_label_shape f h) h

theorem fieldOk_relabel (f : Field) (l : Str) (h : fieldOk f = true) (hl : labelOk ⟨l, f.kind, f.first, f.conts⟩ = true) :
    fieldOk ⟨l, f.kind, f.first, f.conts⟩ = true := by
  rw [fieldOk, Bool.and_eq_true, Bool.and_eq_true, Bool.and_eq_true] at h ⊢
  exact ⟨⟨⟨hl, h.1.1.2⟩, h.1.2⟩, h.2⟩

theorem fieldOk_text (l x : Str) (ls : List TLine) (hl : labelOk ⟨l, 4, x, ls⟩ = true) (h : TextOk x ls) :
    fieldOk ⟨l, 4, x, ls⟩ = true := by
  have hie : x.isEmpty = false := List.isEmpty_eq_false_iff.mpr h.ne
  simp only [fieldOk, hie, Bool.false_eq_true, if_false, Bool.not_false, Bool.true_or, Bool.and_true, Bool.and_eq_true, bodyOk,
    List.all_eq_true]
  refine ⟨⟨⟨hl, h.pl⟩, h.tr⟩, h.all, ?_⟩
  cases hg : ls.getLast? with
  | none => rfl
  | some u => simpa using h.last u hg

theorem ss_head (s : Str) (h : SS s) : headP isSpace s = false := ((trimmed_iff s).mp h.tr).1

theorem word_facts (s w : Str) (h : SS s) (hw : w ∈ splitChar ' ' s) :
    singleSpaced w = true ∧ plain w = true ∧ ' ' ∉ w ∧ headP isSpace w = false := by
  have hne := h.pieces w hw
  have hnosp : ' ' ∉ w := splitChar_no_sep ' ' s w hw
  have hpl : plain w = true := by
    have := h.pl
    simp only [plain, List.all_eq_true] at this ⊢
    exact fun c hc => this c (mem_of_mem_splitChar ' ' s w hw c hc)
  have hns := h.word_no_space hw
  have hhead : headP isSpace w = false := by
    cases w with
    | nil => rfl
    | cons c cs => exact hns c (List.mem_cons_self ..)
  have hlast : lastP isSpace w = false := by
    cases hl : lastP isSpace w with
    | false => rfl
    | true =>
      obtain ⟨a, c, e, hc⟩ := lastP_mem hl
      rw [hns c (by rw [e]; simp)] at hc; cases hc
  refine ⟨?_, hpl, hnosp, hhead⟩
  simp only [singleSpaced, Bool.and_eq_true, Bool.not_eq_true', List.isEmpty_eq_false_iff, List.all_eq_true, trimmed,
    Bool.or_eq_true, beq_iff_eq]
  refine ⟨⟨⟨⟨hne, hpl⟩, hhead, hlast⟩, ?_⟩, fun c hc => Or.inl (hns c hc)⟩
  intro p hp
  rw [splitChar_not_mem ' ' w hnosp, List.mem_singleton] at hp
  rw [hp]; exact hne

theorem words_facts (f : Field) (hk : f.kind = 1) (h : fieldOk f = true) :
    ∀ w ∈ wordsOf f, singleSpaced w = true ∧ plain w = true ∧ ' ' ∉ w ∧ headP isSpace w = false := by
  simp only [fieldOk, hk, Bool.and_eq_true, List.all_eq_true] at h
  obtain ⟨_, hfirst, hconts⟩ := h
  intro w hw
  rcases List.mem_append.mp hw with h1 | h1
  · exact word_facts _ _ (ss_of _ hfirst) h1
  · obtain ⟨l, hl, hwl⟩ := List.mem_flatMap.mp h1
    exact word_facts _ _ (item_facts l (hconts l hl)).ss hwl

theorem itemText_word (w : Str) (h : headP isSpace w = false) : itemText ⟨3, w⟩ = w := dropWhile_sp_id w h

theorem itemText_stmtLine (l : TLine) (h : headP isSpace (itemText l) = false) : itemText (stmtLine l) = itemText l := by
  show (List.replicate 10 ' ' ++ itemText l).dropWhile (· == ' ') = itemText l
  generalize (10 : Nat) = k
  induction k with
  | zero => exact dropWhile_sp_id _ h
  | succ k ih => simpa [List.replicate_succ, List.dropWhile_cons] using ih

theorem plain_spaces_append (k : Nat) (s : Str) (h : plain s = true) : plain (List.replicate k ' ' ++ s) = true := by
  induction k with
  | zero => exact h
  | succ k ih => exact plain_sp ih

theorem singleSpaced_of_ss (s : Str) (h : SS s) : singleSpaced s = true := by
  simp only [singleSpaced, Bool.and_eq_true, Bool.not_eq_true', List.isEmpty_eq_false_iff, List.all_eq_true,
    Bool.or_eq_true, beq_iff_eq]
  refine ⟨⟨⟨⟨h.ne, h.pl⟩, h.tr⟩, h.pieces⟩, fun c hc => ?_⟩
  cases hs : isSpace c with
  | false => exact Or.inl rfl
  | true => exact Or.inr (h.onlySp c hc hs)

theorem itemOk_word (w : Str) (h : singleSpaced w = true ∧ plain w = true ∧ ' ' ∉ w ∧ headP isSpace w = false) :
    itemOk ⟨3, w⟩ = true := by
  simp only [itemOk, Bool.or_eq_true, Bool.and_eq_true, beq_iff_eq]
  exact Or.inr ⟨⟨trivial, h.2.1⟩, by rw [itemText_word w h.2.2.2]; exact h.1⟩

/-- the indentation added by `stmtLine` is dropped again by `itemText` -/
theorem itemOk_stmtLine (l : TLine) (h : itemOk l = true) : itemOk (stmtLine l) = true := by
  have hs := (item_facts l h).ss
  simp only [itemOk, Bool.or_eq_true, Bool.and_eq_true, beq_iff_eq]
  refine Or.inr ⟨⟨rfl, plain_spaces_append 10 _ hs.pl⟩, ?_⟩
  rw [itemText_stmtLine l (ss_head _ hs)]
  exact singleSpaced_of_ss _ hs

theorem fieldOk_items (l x : Str) (k : Nat) (ls : List TLine) (hk : k = 1 ∨ k = 2) (hl : labelOk ⟨l, k, x, ls⟩ = true)
    (hx : singleSpaced x = true) (hls : ∀ t ∈ ls, itemOk t = true) : fieldOk ⟨l, k, x, ls⟩ = true := by
  have hs := ss_of x hx
  rw [fieldOk, Bool.and_eq_true, Bool.and_eq_true, Bool.and_eq_true]
  refine ⟨⟨⟨hl, hs.pl⟩, hs.tr⟩, ?_⟩
  rcases hk with rfl | rfl <;> exact Bool.and_eq_true_iff.mpr ⟨hx, List.all_eq_true.mpr hls⟩

/-- `canonField` rewrites the lists (kinds 1, 2) and moves a text up to the declaration line (kind 4); any other field
is relabelled only -/
theorem canon_fieldOk (f : Field) (h : fieldOk f = true) : fieldOk (canonField f) = true := by
  have hlab : labelOk (canonField f) = true := labelOk_canon f (fieldOk_base f h).1
  by_cases h1 : f.kind = 1
  · have hw := words_facts f h1 h
    obtain ⟨w, ws, hws⟩ := List.exists_cons_of_ne_nil (words_ne f)
    rw [hws] at hw
    rw [canon_ws f h1 w ws hws] at hlab ⊢
    exact fieldOk_items _ _ 1 _ (.inl rfl) hlab (hw w List.mem_cons_self).1
      (List.forall_mem_map.mpr fun v hv => itemOk_word v (hw v (List.mem_cons_of_mem _ hv)))
  by_cases h2 : f.kind = 2
  · have hf := fieldOk_kind f h h2
    rw [canon_stmts f h2] at hlab ⊢
    exact fieldOk_items _ _ 2 _ (.inr rfl) hlab hf.1 (List.forall_mem_map.mpr fun l hl => itemOk_stmtLine l (hf.2 l hl))
  by_cases h4 : f.kind = 4
  · obtain ⟨x, ls, hc, htx, _⟩ := formatted_canon f h4 h
    rw [hc] at hlab ⊢
    exact fieldOk_text _ x ls hlab htx
  · rw [canon_relabel f _ rfl ⟨h1, h2, h4⟩] at hlab ⊢
    exact fieldOk_relabel f _ h hlab

theorem flatMap_single_words (ws : List Str) (h : ∀ w ∈ ws, ' ' ∉ w ∧ headP isSpace w = false) :
    (ws.map fun w => (⟨3, w⟩ : TLine)).flatMap (fun l => splitChar ' ' (itemText l)) = ws := by
  induction ws with
  | nil => rfl
  | cons w ws ih =>
    simp only [List.map_cons, List.flatMap_cons]
    rw [itemText_word w (h w (by simp)).2, splitChar_not_mem ' ' w (h w (by simp)).1, ih (fun v hv => h v (by simp [hv]))]
    rfl

theorem canon_expected (f : Field) (h : fieldOk f = true) (h5 : f.kind ≠ 5) : expectedFV (canonField f) = expectedFV f := by
  by_cases h1 : f.kind = 1
  · -- a list of words: splitting the words again gives the words
    have hw := words_facts f h1 h
    obtain ⟨w, ws, hws⟩ := List.exists_cons_of_ne_nil (words_ne f)
    have he : expectedFV f = .wsSep (w :: ws) := by simp only [expectedFV, h1, ← hws, wordsOf]
    rw [hws] at hw
    rw [canon_ws f h1 w ws hws, he]
    simp only [expectedFV]
    rw [splitChar_not_mem ' ' w (hw w List.mem_cons_self).2.2.1,
      flatMap_single_words ws fun v hv => (hw v (List.mem_cons_of_mem _ hv)).2.2]
    rfl
  by_cases h2 : f.kind = 2
  · have hf := fieldOk_kind f h h2
    rw [canon_stmts f h2]
    simp only [expectedFV, h2, List.map_map]
    congr 3
    exact List.map_congr_left fun l hl => itemText_stmtLine l (ss_head _ (item_facts l (hf.2 l hl)).ss)
  by_cases h4 : f.kind = 4
  · obtain ⟨x, ls, hc, htx, he⟩ := formatted_canon f h4 h
    rw [hc, he]
    simp only [expectedFV, List.isEmpty_eq_false_iff.mpr htx.ne, joinNl_eq, Bool.false_eq_true, if_false, List.singleton_append]
  · rw [canon_relabel f _ rfl ⟨h1, h2, h4⟩]
    rfl

theorem canon_first_ne (f : Field) (h : fieldOk f = true) : (canonField f).first ≠ [] := by
  by_cases hk : f.kind = 4
  · obtain ⟨x, ls, hc, htx, _⟩ := formatted_canon f hk h
    rw [hc]; exact htx.ne
  · exact first_ne _ (canon_fieldOk f h) (by rw [canon_kind]; exact hk)

theorem parse_rendered (f : Field) (h : fieldOk f = true) (h5 : f.kind ≠ 5) :
    fromValue (clsOf f.kind) (some (rawVal (canonField f))) = expectedFV f := by
  have hok := canon_fieldOk f h
  have := typed_value (canonField f) hok (by rw [canon_kind]; exact h5)
  rwa [lstrip_rawVal _ (canon_first_ne f h) (first_trimmed _ hok), canon_kind, canon_expected f h h5] at this

end Props.C13F
