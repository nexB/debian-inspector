/-
C19: the paragraph as a case-insensitive insertion-ordered dictionary (`refines_dict`), the conventional
capitalisation of field names, and the typed values of `parse_control_fields` (`soundT`).
-/
import DebInspector.Props.C19
import DebInspector.Proofs.SplitJoin
import DebInspector.Proofs.Assoc
import DebInspector.Thm.C08

namespace Props.C19
open Py Model.Control Proofs.Assoc

theorem step_eq_specStep (lower : Str → Str) (d : PyDict) (op : Op) : step lower d op = specStep lower d op := by
  cases op <;> rfl

theorem runOps_eq_specRun (lower : Str → Str) (d : PyDict) (ops : List Op) :
    runOps lower d ops = specRun lower d ops := by
  induction ops generalizing d with
  | nil => rfl
  | cons op ops ih => simp only [runOps, specRun, step_eq_specStep, ih]

theorem construct_eq (lower : Str → Str) (r : Route) : construct lower r = specInit lower r := by
  cases r with
  | mapping items =>
    simp only [construct, specInit, specItems]
    split <;> rfl
  | pairs items => rfl
  | strings ls => rfl
  | empty => rfl
  | text t => rfl
  | file t => rfl

/-- **refinement**: however the paragraph was built (mapping, pairs, "Name: value" strings, nothing, a text, a file object)
and for every finite history of set / get / delete / membership / length / iteration / to_dict with
arbitrarily-cased keys, and for *every* lower-casing function, the paragraph answers exactly as a
plain insertion-ordered dictionary driven by the same history with lower-cased keys -/
theorem refines_dict (lower : Str → Str) (i : Input) :
    runOps lower (construct lower i.route) i.ops = spec lower i := by
  unfold spec
  rw [construct_eq, runOps_eq_specRun]

theorem sound (i : Input) : holdsOn i (model i) = true := by
  unfold holdsOn model
  simp [refines_dict]

/-- non-vacuity: set under one casing, delete under another, overwrite keeps the position -/
example : model ⟨.pairs [("A".toList, "1".toList), ("b".toList, "2".toList)],
    [.set "a".toList "3".toList, .iter, .del "B".toList, .mem "b".toList, .get "A".toList, .del "x".toList, .len]⟩ =
    [.none, .keys ["a".toList, "b".toList], .none, .bool false, .str "3".toList, .keyError, .int 1] := by decide +kernel

/-! ## typed fields: the conventional capitalisation for every name -/

/-- `DEPS_FIELDS` (regenerated from the source) has the same members as policy's list of relationship fields -/
theorem depsFields_eq_policy :
    (∀ f ∈ Generated.depsFields, f ∈ relationshipFields) ∧ (∀ f ∈ relationshipFields, f ∈ Generated.depsFields) := by
  decide +kernel

/-- the special-case table of `normalize_control_field_name` (regenerated from the source) -/
theorem specialCases_eq :
    Generated.specialCases = [("md5sum", "MD5sum"), ("sha1", "SHA1"), ("sha256", "SHA256")] := rfl

theorem specialTable_eq :
    specialTable = [("md5sum".toList, "MD5sum".toList), ("sha1".toList, "SHA1".toList), ("sha256".toList, "SHA256".toList)] :=
  rfl

def convWord (w : Str) : Str :=
  let l := lowerAscii w
  if l = "md5sum".toList then "MD5sum".toList
  else if l = "sha1".toList then "SHA1".toList
  else if l = "sha256".toList then "SHA256".toList
  else capitalizeAscii w

theorem conventional_eq (name : Str) : conventional name = join ['-'] ((splitChar '-' name).map convWord) := rfl

/-- the chain of comparisons in `conventional` is the lookup in the special-case table -/
theorem convWord_eq_lookup (w : Str) :
    convWord w = match specialTable.lookup (lowerAscii w) with | some s => s | none => capitalizeAscii w := by
  unfold convWord
  simp only [specialTable_eq, lookup_cons_if, List.lookup_nil]
  by_cases h1 : lowerAscii w = "md5sum".toList
  · simp only [if_pos h1]
  by_cases h2 : lowerAscii w = "sha1".toList
  · simp only [if_neg h1, if_pos h2]
  by_cases h3 : lowerAscii w = "sha256".toList
  · simp only [if_neg h1, if_neg h2, if_pos h3]
  · simp only [if_neg h1, if_neg h2, if_neg h3]

theorem normalize_eq_conventional (name : Str) : normalizeName name = conventional name :=
  congrArg _ (List.map_congr_left fun w _ => (convWord_eq_lookup w).symm)

theorem lowerAscii_cap (w : Str) : lowerAscii (capitalizeAscii w) = lowerAscii w := by
  cases w with
  | nil => rfl
  | cons c cs => exact show _ :: _ = _ :: _ from congr (congrArg _ (lowerAsciiChar_upper c)) (lowerAscii_lower cs)

theorem cap_lower (w : Str) : capitalizeAscii (lowerAscii w) = capitalizeAscii w := by
  cases w with
  | nil => rfl
  | cons c cs => exact show _ :: _ = _ :: _ from congr (congrArg _ (upperAsciiChar_lower c)) (lowerAscii_lower cs)

theorem lower_special : ∀ kv ∈ specialTable, lowerAscii kv.2 = kv.1 := by decide +kernel

theorem lowerAscii_convWord (w : Str) : lowerAscii (convWord w) = lowerAscii w := by
  rw [convWord_eq_lookup]
  cases h : specialTable.lookup (lowerAscii w) with
  | none => exact lowerAscii_cap w
  | some s =>
    obtain ⟨_, _, e, _⟩ := List.lookup_eq_some_iff.mp h
    exact lower_special (lowerAscii w, s) (by rw [e]; simp)

theorem convWord_lower (w : Str) : convWord (lowerAscii w) = convWord w := by
  unfold convWord
  simp only [lowerAscii_lower, cap_lower]

theorem conventional_lower (name : Str) : conventional (lowerAscii name) = conventional name := by
  rw [conventional_eq, conventional_eq, lowerAscii, splitChar_map _ '-' lowerAsciiChar_beq_dash, List.map_map]
  exact congrArg _ (List.map_congr_left fun w _ => convWord_lower w)

theorem conventional_of_lower {a b : Str} (h : lowerAscii a = lowerAscii b) : conventional a = conventional b := by
  rw [← conventional_lower a, h, conventional_lower]

theorem lower_conventional (name : Str) : lowerAscii (conventional name) = lowerAscii name := by
  have hw : (splitChar '-' name).map (lowerAscii ∘ convWord) = (splitChar '-' name).map lowerAscii :=
    List.map_congr_left fun w _ => lowerAscii_convWord w
  rw [conventional_eq, lowerAscii, map_join, List.map_map]
  show join ['-'] ((splitChar '-' name).map (lowerAscii ∘ convWord)) = _
  rw [hw]
  exact (splitChar_map _ '-' lowerAsciiChar_beq_dash name) ▸ join_splitChar '-' _

/-- **the conventional capitalisation is idempotent and does not depend on the case of the input**, for every name -/
theorem conventional_idem (name : Str) : conventional (conventional name) = conventional name :=
  conventional_of_lower (lower_conventional name)

theorem conventional_upper (name : Str) : conventional (name.map upperAsciiChar) = conventional name :=
  conventional_of_lower (lowerAscii_upper name)

theorem conventional_table :
    ∀ f ∈ relationshipFields ++ ["Installed-Size", "MD5sum", "SHA1", "SHA256", "Checksums-SHA256", "Package", "Maintainer"],
      conventional f.toList = f.toList := by decide +kernel

theorem conventional_idem_table :
    ∀ f ∈ relationshipFields ++ ["Installed-Size", "MD5sum", "SHA1", "SHA256", "Checksums-SHA256", "Package", "Maintainer"],
      conventional f.toList = f.toList ∧ conventional (lowerAscii f.toList) = f.toList ∧
      conventional (f.toList.map upperAsciiChar) = f.toList := by
  intro f hf
  have h := conventional_table f hf
  exact ⟨h, by rw [conventional_lower, h], by rw [conventional_upper, h]⟩

/-! ### the typed values -/

/-- what `parse_control_fields` makes of one item -/
def GoodT (kv : Str × Str) (nt : Str × Typed) : Prop :=
  nt.1 = normalizeName kv.1 ∧
  match nt.2 with
  | .deps _ => Generated.depsFields.contains (String.ofList nt.1) = true
  | .int k => Generated.depsFields.contains (String.ofList nt.1) = false ∧ nt.1 = "Installed-Size".toList ∧ pyInt kv.2 = .ok k
  | .raw s => Generated.depsFields.contains (String.ofList nt.1) = false ∧ nt.1 ≠ "Installed-Size".toList ∧ s = kv.2

inductive All2 {α β} (R : α → β → Prop) : List α → List β → Prop
  | nil : All2 R [] []
  | cons {a b as bs} : R a b → All2 R as bs → All2 R (a :: as) (b :: bs)

theorem All2.length {α β} {R : α → β → Prop} {as : List α} {bs : List β} (h : All2 R as bs) : bs.length = as.length := by
  induction h with
  | nil => rfl
  | cons _ _ ih => simp [ih]

theorem All2.zip_all {α β γ} {R : α → β → Prop} {as : List α} {bs : List β} (h : All2 R as bs) (F : β → γ)
    (p : α × γ → Bool) (hp : ∀ a b, R a b → p (a, F b) = true) : (as.zip (bs.map F)).all p = true := by
  induction h with
  | nil => rfl
  | cons hr _ ih => simp only [List.map_cons, List.zip_cons_cons, List.all_cons, hp _ _ hr, ih, Bool.and_self]

theorem parseControlItems_ok (i : List (Str × Str)) (ts : List (Str × Typed)) (h : parseControlItems i = .ok ts) :
    All2 GoodT i ts := by
  induction i generalizing ts with
  | nil => cases h; exact All2.nil
  | cons kv rest ih =>
    obtain ⟨name, v⟩ := kv
    simp only [parseControlItems] at h
    split at h
    next => cases h
    next t ht =>
      split at h
      next => cases h
      next ts' hr =>
        cases h
        refine All2.cons ⟨rfl, ?_⟩ (ih ts' hr)
        -- `ht`: which of the three types the value got
        split at ht
        next hdeps =>
          split at ht <;> cases ht
          exact hdeps
        next hdeps =>
          have hd' := Bool.eq_false_iff.mpr hdeps
          split at ht
          next hsize =>
            split at ht
            next k hp => cases ht; exact ⟨hd', hsize, hp⟩
            next => cases ht
          next hsize =>
            cases ht
            exact ⟨hd', hsize, rfl⟩

theorem All2.keys {as : List (Str × Str)} {bs : List (Str × Typed)} (h : All2 GoodT as bs) :
    bs.map (·.1) = as.map fun kv => conventional kv.1 := by
  induction h with
  | nil => rfl
  | cons hr _ ih => simp only [List.map_cons, ih, hr.1, normalize_eq_conventional]

theorem tset_eq_lset (d : List (Str × Typed)) (k : Str) (v : Typed) : tset d k v = Model.Copyright.lset d k v := by
  induction d with
  | nil => rfl
  | cons a as ih => rw [tset, Model.Copyright.lset, ih]

theorem fold_tset_parsed {i : List (Str × Str)} {ts : List (Str × Typed)} (hall : All2 GoodT i ts)
    (hdist : distinctNorm i = true) : ts.foldl (fun d kv => tset d kv.1 kv.2) [] = ts := by
  simp only [distinctNorm, beq_iff_eq] at hdist
  have hnd : (ts.map (·.1)).Nodup :=
    hall.keys ▸ (Props.C08.nodup_of_length_foldl_addNew _ [] (hdist.symm.trans (Nat.zero_add _).symm)).1
  have := fold_lset_fresh ts (·.1) (·.2) [] hnd fun _ _ => nofun
  simpa only [tset_eq_lset, List.nil_append, List.map_id'] using this

theorem relFields_contains (n : Str) :
    relationshipFields.contains (String.ofList n) = Generated.depsFields.contains (String.ofList n) := by
  rw [Bool.eq_iff_iff, List.contains_iff_mem, List.contains_iff_mem]
  exact ⟨depsFields_eq_policy.2 _, depsFields_eq_policy.1 _⟩

/-- **C19, typed fields**: for every control paragraph whose normalised names are distinct, whenever the model of
`parse_control_fields` returns, it returns one entry per input field, in order, under the conventional
capitalisation of its name (idempotent, independent of the case of the input), typed as a relationship exactly for
policy's relationship fields (which relationship is not checked: `modelT` hands the clause the parsed value twice),
holding the integer for `Installed-Size` and the raw string for every other field -/
theorem soundT (i : InputT) : holdsOnT i (modelT i) = true := by
  unfold holdsOnT
  cases hH : (i.all (fun kv => asciiName kv.1) && distinctNorm i) with
  | false => rfl
  | true =>
    simp only [Bool.not_true, Bool.false_or]
    simp only [Bool.and_eq_true] at hH
    obtain ⟨_, hdist⟩ := hH
    unfold modelT parseControlFields
    cases hp : parseControlItems i with
    | error e => rfl
    | ok ts =>
      simp only
      have hall := parseControlItems_ok i ts hp
      rw [fold_tset_parsed hall hdist]
      simp only [Bool.and_eq_true]
      refine ⟨by simp [hall.length], ?_⟩
      apply hall.zip_all
      rintro kv ⟨n, t⟩ ⟨hn, hty⟩
      obtain rfl : n = conventional kv.1 := hn.trans (normalize_eq_conventional _)
      simp only [Bool.and_eq_true, beq_iff_eq]
      refine ⟨⟨⟨⟨trivial, conventional_idem kv.1⟩, conventional_lower kv.1⟩, conventional_upper kv.1⟩, ?_⟩
      cases t with
      | deps r => exact Bool.and_eq_true_iff.mpr ⟨(relFields_contains _).trans hty, Proto.Val.eqb_refl _⟩
      | int k =>
        rw [hty.2.2]
        exact Bool.and_eq_true_iff.mpr ⟨beq_iff_eq.mpr hty.2.1, beq_self_eq_true k⟩
      | raw s =>
        simp only [Bool.and_eq_true, Bool.not_eq_true', beq_iff_eq, bne_iff_ne, ne_eq]
        exact ⟨⟨(relFields_contains _).trans hty.1, hty.2.1⟩, hty.2.2⟩

end Props.C19
