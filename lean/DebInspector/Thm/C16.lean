/-
C16: `remove_signature` returns its input or a contiguous part of it (`result_is_part_of_input`), for every text;
`matchAt` cut into the pieces (`clearAt`, `withHashOf`, `hashCond`) that the proof for well-formed messages (C16W) follows.
-/
import DebInspector.Props.C16
import DebInspector.Proofs.SplitJoin

namespace Props.C16
open Py Model.Unsign

theorem unsigned_identity (t : Str) (h : isSigned t = false) : removeSignature t = t := by
  simp [removeSignature, h]

theorem removeSignature_cases (t : Str) :
    removeSignature t = t ∨ ∃ c, search (splitChar '\n' t) = some (.clear c) ∧ removeSignature t = c := by
  unfold removeSignature
  split
  · exact Or.inl rfl
  · cases h : search (splitChar '\n' t) with
    | none => exact Or.inl rfl
    | some f =>
      cases f with
      | clear c => exact Or.inr ⟨c, rfl, rfl⟩
      | armorOnly => exact Or.inl rfl

theorem joinNl_eq_join (ls : List Str) : joinNl ls = join ['\n'] ls :=
  eq_join rfl (fun _ => rfl) (fun _ _ _ => rfl) ls

theorem joinNl_splitChar (t : Str) : joinNl (splitChar '\n' t) = t := by
  rw [joinNl_eq_join, join_splitChar]

theorem joinNl_append (a b : List Str) (ha : a ≠ []) (hb : b ≠ []) :
    joinNl (a ++ b) = joinNl a ++ '\n' :: joinNl b := by
  simp only [joinNl_eq_join, join1_append '\n' a b ha hb]

theorem joinNl_prefix (a b : List Str) : joinNl a <+: joinNl (a ++ b) := by
  by_cases ha : a = []
  · rw [ha]; exact List.nil_prefix
  · by_cases hb : b = []
    · rw [hb, List.append_nil]; exact List.prefix_refl _
    · rw [joinNl_append a b ha hb]; exact List.prefix_append _ _

theorem joinNl_suffix (a b : List Str) : joinNl b <:+ joinNl (a ++ b) := by
  by_cases hb : b = []
  · rw [hb]; exact List.nil_suffix
  · by_cases ha : a = []
    · rw [ha]; exact List.suffix_refl _
    · rw [joinNl_append a b ha hb]; exact ⟨joinNl a ++ ['\n'], by simp⟩

theorem joinNl_take_infix (ls : List Str) (j k : Nat) : joinNl ((ls.drop j).take k) <:+: joinNl ls := by
  have h1 := joinNl_prefix ((ls.drop j).take k) ((ls.drop j).drop k)
  have h2 := joinNl_suffix (ls.take j) (ls.drop j)
  rw [List.take_append_drop] at h1 h2
  exact h1.isInfix.trans h2.isInfix

/-- the `Hash:` header line and the empty line after it, as `matchAt` tests them (6 is the length of `"Hash: "`) -/
def hashCond (h e : Str) : Bool :=
  startsWith (stripCr h) "Hash: ".toList && !((stripCr h).drop 6).isEmpty && ((stripCr h).drop 6).all isHashChar &&
    (stripCr e).isEmpty

/-- the clear text after a `Hash:` header block -/
def withHashOf : Lines → Option Str
  | h :: (e :: (m :: more)) => if hashCond h e then longestClear (m :: more) else none
  | _ => none

/-- the signed-message group of `matchAt`: the clear text it captures at the start of these lines -/
def clearAt : Lines → Option Str
  | l0 :: (l1 :: rest) =>
    if stripCr l0 = beginSigned then
      match withHashOf (l1 :: rest) with
      | some t => some t
      | none => longestClear (l1 :: rest)
    else none
  | _ => none

theorem matchAt_eq (ls : Lines) :
    matchAt ls = match clearAt ls with
      | some t => some (.clear t)
      | none => if armorMatches ls then some .armorOnly else none := by
  rfl

theorem matchAt_clear {ls : Lines} {c : Str} (h : matchAt ls = some (.clear c)) : clearAt ls = some c := by
  rw [matchAt_eq] at h
  split at h
  · rename_i t ht; rw [ht]; cases h; rfl
  · split at h <;> cases h

theorem longestClear_take {ls : Lines} {c : Str} (h : longestClear ls = some c) : ∃ k, c = joinNl (ls.take k) := by
  obtain ⟨e, _, he⟩ := List.exists_of_findSome?_eq_some h
  split at he
  · exact ⟨e + 1, (Option.some.inj he).symm⟩
  · cases he

theorem clearAt_part {ls : Lines} {c : Str} (h : clearAt ls = some c) : ∃ j k, c = joinNl ((ls.drop j).take k) := by
  match ls, h with
  | l0 :: l1 :: rest, h =>
    simp only [clearAt] at h
    split at h
    · split at h
      · rename_i t hw
        cases h
        match rest, hw with
        | e :: m :: more, hw =>
          simp only [withHashOf] at hw
          split at hw
          · obtain ⟨k, hk⟩ := longestClear_take hw
            exact ⟨3, k, hk⟩
          · cases hw
      · obtain ⟨k, hk⟩ := longestClear_take h
        exact ⟨1, k, hk⟩
    · cases h

theorem search_clear (ls : Lines) (c : Str) (h : search ls = some (.clear c)) :
    ∃ j k, c = joinNl ((ls.drop j).take k) := by
  induction ls with
  | nil => cases h
  | cons l rest ih =>
    unfold search at h
    split at h
    · rename_i f hm
      cases h
      exact clearAt_part (matchAt_clear hm)
    · obtain ⟨j, k, hjk⟩ := ih h
      exact ⟨j + 1, k, hjk⟩

/-- **the result of `remove_signature` is always a contiguous part of its input** (for every text,
enveloped or not, well-formed or malformed) -/
theorem result_is_part_of_input (t : Str) : removeSignature t <:+: t := by
  rcases removeSignature_cases t with h | ⟨c, hs, hc⟩
  · rw [h]; exact List.infix_refl _
  · rw [hc]
    obtain ⟨j, k, hjk⟩ := search_clear _ _ hs
    have := joinNl_take_infix (splitChar '\n' t) j k
    rw [joinNl_splitChar] at this
    rw [hjk]; exact this

/-- non-vacuity: a well-formed LF message, a CRLF message (final carriage return remains), a bare
signature block (returned unchanged, not None) -/
example : removeSignature "-----BEGIN PGP SIGNED MESSAGE-----\nHash: SHA1\n\nFormat: 1.0\n\n- x\n-----BEGIN PGP SIGNATURE-----\nVersion: G v1\n\nabcd\n=abcd\n-----END PGP SIGNATURE-----\n".toList
    = "Format: 1.0\n\n- x".toList := by
  -- read the literals as character lists: the kernel then decodes no UTF-8
  rw [String.toList_ofList, String.toList_ofList]
  decide +kernel
example : removeSignature "-----BEGIN PGP SIGNED MESSAGE-----\r\nA: b\r\n-----BEGIN PGP SIGNATURE-----\r\n\r\nabcd\r\n=abcd\r\n-----END PGP SIGNATURE-----".toList
    = "A: b\r".toList := by
  rw [String.toList_ofList, String.toList_ofList]
  decide +kernel
example : removeSignature "-----BEGIN PGP SIGNED MESSAGE-----\n-----BEGIN PGP SIGNATURE-----\n\nabcd\n=abcd\n-----END PGP SIGNATURE-----".toList
    = "-----BEGIN PGP SIGNED MESSAGE-----\n-----BEGIN PGP SIGNATURE-----\n\nabcd\n=abcd\n-----END PGP SIGNATURE-----".toList := by
  rw [String.toList_ofList]
  decide +kernel

end Props.C16
