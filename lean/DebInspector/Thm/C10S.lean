/-
C10 — the shift clause for every text: the line-tracking loop (`go_shift`) and the copyright pipeline
(`fromFieldsGroups_shift`) commute with adding k to every line number (they add to numbers and take minima and maxima
of them, and test nothing else about them), so k blank lines on top move every range by exactly k (`shift_sound`).
-/
import DebInspector.Thm.C10
import DebInspector.Thm.C07
namespace Props.C10S
open Py Model.Deb822 Model.Debcon Model.Copyright Props.C10 Proofs.Deb822 Proofs.Assoc Proofs.CopyrightTotal

def shiftFld (k : Nat) (f : Fld) : Fld := ⟨f.name, f.lines.map (shiftNL k)⟩
def shiftGrp (k : Nat) (g : List Fld) : List Fld := g.map (shiftFld k)
def shiftSt (k : Nat) (st : St) : St := st.map fun s => (shiftGrp k s.1, shiftFld k s.2)

theorem go_blank_prefix (k n : Nat) (rest : List NL) :
    go none (numberFrom n (List.replicate k []) ++ rest) = go none rest := by
  induction k generalizing n with
  | zero => rfl
  | succ k ih => exact (go_blank_none _ _ rfl).trans (ih (n + 1))

theorem rstripLines_shift (k : Nat) (ls : List NL) : rstripLines (ls.map (shiftNL k)) = (rstripLines ls).map (shiftNL k) := by
  induction ls with
  | nil => rfl
  | cons l ls ih =>
    rw [List.map_cons]
    by_cases h : rstripLines ls = []
    · rw [rstripLines_cons_nil l ls h, rstripLines_cons_nil _ _ (by rw [ih, h]; rfl)]
      show (if isBlank l.val then [] else [shiftNL k l]) = (if isBlank l.val then [] else [l]).map (shiftNL k)
      cases isBlank l.val <;> rfl
    · rw [rstripLines_cons_ne l ls h, rstripLines_cons_ne _ _ (by rw [ih]; exact mt List.map_eq_nil_iff.mp h), ih]
      rfl

theorem clean_shift (k : Nat) (g : List Fld) : clean (shiftGrp k g) = shiftGrp k (clean g) := by
  unfold clean shiftGrp
  rw [List.map_map, List.map_map]
  exact List.map_congr_left fun f _ => congrArg (Fld.mk f.name) (rstripLines_shift k f.lines)

theorem flush_shift (k : Nat) (st : St) : flush (shiftSt k st) = (flush st).map (shiftGrp k) := by
  cases st with
  | none => rfl
  | some s =>
    show [clean (shiftGrp k s.1 ++ [shiftFld k s.2])] = [shiftGrp k (clean (s.1 ++ [s.2]))]
    rw [← clean_shift]
    exact congrArg (fun g => [clean g]) (List.map_append (f := shiftFld k) (l₁ := s.1) (l₂ := [s.2])).symm

theorem fromLine_shift (k : Nat) (l : NL) : fromLine (shiftNL k l) = shiftFld k (fromLine l) := by
  unfold fromLine shiftFld shiftNL
  simp

theorem shiftSt_addLine (k : Nat) (s : List Fld × Fld) (x : NL) :
    some (addLine (shiftGrp k s.1, shiftFld k s.2) (shiftNL k x)) = shiftSt k (some (addLine s x)) :=
  congrArg (fun ls => some (shiftGrp k s.1, Fld.mk s.2.name ls)) (List.map_append (f := shiftNL k) (l₁ := s.2.lines) (l₂ := [x])).symm

theorem shiftSt_open (k : Nat) (s : List Fld × Fld) (l : NL) :
    some (shiftGrp k s.1 ++ [shiftFld k s.2], fromLine (shiftNL k l)) = shiftSt k (some (s.1 ++ [s.2], fromLine l)) := by
  rw [fromLine_shift]
  exact congrArg (fun d => some (d, shiftFld k (fromLine l))) (List.map_append (f := shiftFld k) (l₁ := s.1) (l₂ := [s.2])).symm

/-- every test of the loop is on `(shiftNL k l).val`, which is `l.val` by computation, so each step equation applies to the
shifted line under the hypotheses about the line itself -/
theorem go_shift (k : Nat) (st : St) (ls : List NL) :
    go (shiftSt k st) (ls.map (shiftNL k)) = (go st ls).map (shiftGrp k) := by
  induction ls generalizing st with
  | nil => exact flush_shift k st
  | cons l rest ih =>
    rw [List.map_cons]
    have hflush : ∀ s, flush (some (shiftGrp k s.1, shiftFld k s.2)) = (flush (some s)).map (shiftGrp k) :=
      fun s => flush_shift k (some s)
    cases hb : isBlank l.val with
    | true =>
      cases st with
      | none => rw [go_blank_none l _ hb]; exact (go_blank_none (shiftNL k l) _ hb).trans (ih none)
      | some s =>
        rw [show shiftSt k (some s) = some (shiftGrp k s.1, shiftFld k s.2) from rfl]
        cases rest with
        | nil =>
          rw [List.map_nil, go_blank_break s l [] hb (fun _ h => nomatch h),
            go_blank_break _ (shiftNL k l) [] hb (fun _ h => nomatch h), hflush, List.map_append]; rfl
        | cons n rest' =>
          rw [List.map_cons, go_blank_open s l n _ hb, go_blank_open _ (shiftNL k l) (shiftNL k n) _ hb]
          show (if !isDecl n.val && !isBlank n.val then _ else _) = _
          split
          · rw [← List.map_cons, ← ih]
            exact congrArg (go · _) (shiftSt_addLine k s ⟨l.num, rstrip l.val⟩)
          · rw [hflush, List.map_append, ← List.map_cons, ← ih]; rfl
    | false =>
      cases st with
      | none =>
        rw [show shiftSt k none = none from rfl]
        cases hd : isDecl l.val with
        | true => rw [go_decl_step_none l _ hb hd, go_decl_step_none (shiftNL k l) _ hb hd, ← ih, fromLine_shift]; rfl
        | false => rw [go_junk_none l _ hb hd, go_junk_none (shiftNL k l) _ hb hd, List.map_append, ← ih]; rfl
      | some s =>
        rw [show shiftSt k (some s) = some (shiftGrp k s.1, shiftFld k s.2) from rfl]
        cases hc : isCont l.val with
        | true =>
          rw [go_cont_step s l _ hb hc, go_cont_step _ (shiftNL k l) _ hb hc, ← ih]
          exact congrArg (go · _) (shiftSt_addLine k s ⟨l.num, rstrip l.val⟩)
        | false =>
          cases hd : isDecl l.val with
          | true =>
            rw [go_decl_step_open s l _ hb hc hd, go_decl_step_open _ (shiftNL k l) _ hb hc hd, ← ih]
            exact congrArg (go · _) (shiftSt_open k s l)
          | false =>
            rw [go_junk_open s l _ hb hc hd, go_junk_open _ (shiftNL k l) _ hb hc hd, hflush, List.map_append,
              List.map_append, ← ih]; rfl

/-! ### the copyright pipeline commutes with the shift as well -/

def sh (k : Nat) (kv : Str × (Nat × Nat)) : Str × (Nat × Nat) := (kv.1, (kv.2.1 + k, kv.2.2 + k))

def shiftP (k : Nat) (p : Para) : Para := { p with lines := p.lines.map (sh k) }
def shiftAcc (k : Nat) (a : Acc) : Acc := { a with lines := a.lines.map (sh k) }

theorem lset_sh (k : Nat) (l : List (Str × (Nat × Nat))) (key : Str) (v : Nat × Nat) :
    lset (l.map (sh k)) key (v.1 + k, v.2 + k) = (lset l key v).map (sh k) := by
  induction l with
  | nil => rfl
  | cons a as ih =>
    obtain ⟨a1, a2⟩ := a
    simp only [List.map_cons, lset, sh]
    by_cases e : a1 = key
    · simp [e, sh]
    · simp only [e, if_false, List.map_cons]
      rw [← ih]; rfl

theorem fieldText_shift (k : Nat) (f : Fld) : fieldText (shiftFld k f) = fieldText f := by
  unfold fieldText shiftFld
  simp only [List.map_map]
  congr 1

theorem takeWhile_blank_shift (k : Nat) (ls : List NL) :
    ((ls.map (shiftNL k)).takeWhile fun l => isBlank l.val).length = (ls.takeWhile fun l => isBlank l.val).length := by
  induction ls with
  | nil => rfl
  | cons l ls ih =>
    simp only [List.map_cons, List.takeWhile]
    have hv : (shiftNL k l).val = l.val := rfl
    rw [hv]
    cases isBlank l.val <;> simp [ih]

theorem store_shift (k : Nat) (kn : List Str) (a : Acc) (name : Str) (suffix : Nat) (r : Nat × Nat) (v : Str) :
    store kn (shiftAcc k a) name suffix (r.1 + k, r.2 + k) v = shiftAcc k (store kn a name suffix r v) :=
  congrArg (fun L => Acc.mk _ _ L _ _) (lset_sh k a.lines name r)

theorem addField_shift (k : Nat) (kn : List Str) (a : Acc) (f : Fld) :
    addField kn (shiftAcc k a) (shiftFld k f) = (addField kn a f).map (shiftAcc k) := by
  rw [addField_eq, addField_eq, fieldText_shift]
  show (if (fieldText f).isEmpty then Except.ok (shiftAcc k a) else
    match freshName a.seen (replaceChar '-' '_' f.name) (a.seen.length + 1) (replaceChar '-' '_' f.name) a.suffix with
    | none => Except.error PyExc.outOfModel
    | some (name, suffix) => if (kn.contains name && (a.known.lookup name).isSome) ||
        (!kn.contains name && (a.extra.lookup name).isSome) then Except.error PyExc.assertionError else
      match (f.lines.map (shiftNL k)).head?, (f.lines.map (shiftNL k)).getLast? with
      | some first, some last => Except.ok (store kn (shiftAcc k a) name suffix
          (first.num + ((f.lines.map (shiftNL k)).takeWhile fun (l : NL) => isBlank l.val).length, last.num)
          (lstrip (fieldText f)))
      | _, _ => Except.error PyExc.indexError) = _
  rw [takeWhile_blank_shift, List.head?_map, List.getLast?_map]
  cases (fieldText f).isEmpty with
  | true => rfl
  | false =>
    cases freshName a.seen (replaceChar '-' '_' f.name) (a.seen.length + 1) (replaceChar '-' '_' f.name) a.suffix with
    | none => rfl
    | some r =>
      obtain ⟨name, suffix⟩ := r
      dsimp only
      cases (kn.contains name && (a.known.lookup name).isSome) || (!kn.contains name && (a.extra.lookup name).isSome) with
      | true => rfl
      | false =>
        cases f.lines.head? with
        | none => rfl
        | some first =>
          cases f.lines.getLast? with
          | none => rfl
          | some last =>
            exact congrArg Except.ok
              ((congrArg (fun n => store kn (shiftAcc k a) name suffix (n, last.num + k) _) (Nat.add_right_comm first.num k _)).trans
                (store_shift k kn a name suffix (_, last.num) _))

theorem addFields_shift (k : Nat) (kn : List Str) (fs : List Fld) (a : Acc) :
    addFields kn (shiftAcc k a) (shiftGrp k fs) = (addFields kn a fs).map (shiftAcc k) := by
  induction fs generalizing a with
  | nil => rfl
  | cons f fs ih =>
    rw [shiftGrp, List.map_cons, addFields, addFields, addField_shift]
    cases addField kn a f with
    | error e => rfl
    | ok a' => exact ih a'

theorem classify_shift (k : Nat) (g : List Fld) : classify (shiftGrp k g) = classify g := by
  unfold classify shiftGrp
  simp only [List.map_map]
  have : ((fun (f : Fld) => f.name) ∘ shiftFld k) = fun f => f.name := rfl
  rw [this]

theorem fromFields_shift (k : Nat) (K : Kind) (g : List Fld) :
    fromFields K (shiftGrp k g) = (fromFields K g).map (shiftP k) := by
  rw [fromFields_eq, fromFields_eq, show addFields ((typedFields K).map (·.1)) ⟨[], [], [], [], 1⟩ (shiftGrp k g) = _ from
    addFields_shift k _ g ⟨[], [], [], [], 1⟩]
  cases addFields ((typedFields K).map (·.1)) ⟨[], [], [], [], 1⟩ g <;> rfl

theorem mapExcept_shift (k : Nat) (gs : List (List Fld)) :
    Model.Copyright.mapExcept (fun g => fromFields (classify g) g) (gs.map (shiftGrp k)) =
      (Model.Copyright.mapExcept (fun g => fromFields (classify g) g) gs).map (·.map (shiftP k)) :=
  mapExcept_map _ _ _ _ (fun g => by rw [classify_shift, fromFields_shift]) gs

theorem toDict_shift (k : Nat) (p : Para) : toDict (shiftP k p) = toDict p := rfl

theorem foldl_shift (k : Nat) (f : Nat → Nat × Nat → Nat) (hf : ∀ m x, f (m + k) (x.1 + k, x.2 + k) = f m x + k)
    (ns : List (Nat × Nat)) (m : Nat) :
    (ns.map fun x => (x.1 + k, x.2 + k)).foldl f (m + k) = ns.foldl f m + k := by
  induction ns generalizing m with
  | nil => rfl
  | cons n ns ih => rw [List.map_cons, List.foldl_cons, List.foldl_cons, hf, ih]

theorem nums_shift (k : Nat) (g : List Para) :
    (g.flatMap fun p => (p.lines.map (sh k)).map (·.2)) = (g.flatMap fun p => p.lines.map (·.2)).map fun x => (x.1 + k, x.2 + k) := by
  induction g with
  | nil => rfl
  | cons p ps ih =>
    simp only [List.flatMap_cons, List.map_append, ih]
    congr 1
    simp [sh, List.map_map, Function.comp]

open Props.C07 in
theorem merged_shift (k : Nat) (g : List Para) : merged (g.map (shiftP k)) = shiftP k (merged g) := by
  rw [merged, merged, List.flatMap_map, List.flatMap_map]
  refine congrArg (Para.mk _ _ _) ?_
  show (match g.flatMap fun p => (p.lines.map (sh k)).map (·.2) with | [] => _ | n :: ns => _) = _
  rw [nums_shift]
  cases (g.flatMap fun p => p.lines.map (·.2)) with
  | nil => rfl
  | cons n ns =>
    simp only [List.map_cons, List.map_nil, sh, foldl_shift k (fun m x => min m x.1) (fun _ _ => Nat.add_min_add_right ..),
      foldl_shift k (fun m x => max m x.2) (fun _ _ => Nat.add_max_add_right ..)]

open Props.C07 in
theorem mergeRun_shift (k : Nat) (g : List Para) : mergeRun (g.map (shiftP k)) = (mergeRun g).map (shiftP k) := by
  rw [mergeRun_eq, mergeRun_eq, merged_shift, List.flatMap_map]
  show (if (g.flatMap fun p => (toDict p).map (·.2)).any _ then _ else _) = _
  split <;> rfl

theorem groupByKind_shift (k : Nat) (ps : List Para) :
    groupByKind (ps.map (shiftP k)) = (groupByKind ps).map (·.map (shiftP k)) := by
  induction ps with
  | nil => rfl
  | cons p ps ih =>
    rw [List.map_cons, Props.C07.groupByKind_cons, Props.C07.groupByKind_cons, ih]
    cases hg : groupByKind ps with
    | nil => rfl
    | cons g0 rest =>
      cases g0 with
      | nil => rfl
      | cons q g =>
        simp only [List.map_cons]
        have hk : (shiftP k q).kind = q.kind := rfl
        have hk2 : (shiftP k p).kind = p.kind := rfl
        rw [hk, hk2]
        by_cases e : q.kind = p.kind
        · simp [e]
        · simp [e]

theorem isAllUnknown_shift (k : Nat) (p : Para) : isAllUnknown (shiftP k p) = isAllUnknown p := rfl

open Props.C07 in
theorem mergeGroup_shift (k : Nat) (g : List Para) : mergeGroup (g.map (shiftP k)) = (mergeGroup g).map (·.map (shiftP k)) := by
  have hkeep : keepGroup (g.map (shiftP k)) = keepGroup g := by
    cases g with
    | nil => rfl
    | cons p rest =>
      show ((shiftP k p).kind ≠ .catchall || ((p :: rest).map (shiftP k)).length = 1 || !((p :: rest).map (shiftP k)).all isAllUnknown) = _
      rw [List.length_map, List.all_map]; rfl
  rw [mergeGroup, mergeGroup, hkeep, mergeRun_shift]
  split
  · rfl
  · cases mergeRun g <;> rfl

open Props.C07 in
theorem mergeUnknown_shift (k : Nat) (ps : List Para) :
    mergeUnknown (ps.map (shiftP k)) = (mergeUnknown ps).map (·.map (shiftP k)) := by
  rw [mergeUnknown_eq, mergeUnknown_eq, groupByKind_shift, mapExcept_map mergeGroup mergeGroup _ _ (mergeGroup_shift k)]
  cases Model.Copyright.mapExcept mergeGroup (groupByKind ps) with
  | error e => rfl
  | ok gs => exact congrArg Except.ok (List.map_flatten ..).symm

def shiftRes (k : Nat) (r : List Para × Bool) : List Para × Bool := (r.1.map (shiftP k), r.2)

open Props.C07 in
theorem foldLoop_shift (k : Nat) (ps : List Para) (b : Bool) :
    foldLoop (ps.map (shiftP k)) b = (foldLoop ps b).map (shiftRes k) := by
  induction ps generalizing b with
  | nil => rfl
  | cons p1 rest ih =>
    cases rest with
    | nil => rfl
    | cons p2 rest2 =>
      have ih' : ∀ b, foldLoop (shiftP k p2 :: rest2.map (shiftP k)) b = (foldLoop (p2 :: rest2) b).map (shiftRes k) := ih
      rw [List.map_cons, List.map_cons]
      cases b with
      | true => rw [foldLoop_skip, foldLoop_skip]; exact ih' false
      | false =>
        cases hc : foldCond p1 p2 with
        | false =>
          rw [foldLoop_keep hc, foldLoop_keep (p1 := shiftP k p1) (p2 := shiftP k p2) hc, ih' false]
          cases foldLoop (p2 :: rest2) false <;> rfl
        | true =>
          obtain ⟨_, _, _, text, hd, _⟩ := foldCond_inv hc
          rw [foldLoop_fold hc hd, foldLoop_fold (p1 := shiftP k p1) (p2 := shiftP k p2) hc hd, ih' true]
          show (match (p2.lines.map (sh k)).lookup unknownName with | none => _ | some rng => _) = _
          rw [show (p2.lines.map (sh k)).lookup unknownName = _ from lookup_map_val _ (fun _ (r : Nat × Nat) => (r.1 + k, r.2 + k)) _]
          cases p2.lines.lookup unknownName with
          | none => rfl
          | some rng =>
            cases foldLoop (p2 :: rest2) true with
            | error e => rfl
            | ok r =>
              exact congrArg (fun L => Except.ok (Para.mk _ _ _ L :: r.1.map (shiftP k), r.2))
                (lset_sh k p1.lines "license".toList rng)

theorem foldLicense_shift (k : Nat) (ps : List Para) :
    foldLicense (ps.map (shiftP k)) = (foldLicense ps).map (·.map (shiftP k)) := by
  rw [Props.C07.foldLicense_eq, Props.C07.foldLicense_eq, List.length_map, foldLoop_shift, List.getLast?_map]
  split
  · rfl
  · cases foldLoop ps false with
    | error e => rfl
    | ok r =>
      obtain ⟨out, fp⟩ := r
      cases fp
      · cases ps.getLast? <;> simp [Except.map, shiftRes, List.map_append]
      · rfl

theorem fromFieldsGroups_shift (k : Nat) (gs : List (List Fld)) :
    fromFieldsGroups (gs.map (shiftGrp k)) = (fromFieldsGroups gs).map (·.map (shiftP k)) := by
  unfold fromFieldsGroups
  rw [mapExcept_shift]
  cases Model.Copyright.mapExcept (fun g => fromFields (classify g) g) gs with
  | error e => rfl
  | ok ps =>
    simp only [Except.map]
    rw [mergeUnknown_shift]
    cases mergeUnknown ps with
    | error e => rfl
    | ok ps' =>
      simp only [Except.map]
      exact foldLicense_shift k ps'

theorem parse_shift (k : Nat) (t : Str) : parse (List.replicate k '\n' ++ t) = (parse t).map (shiftGrp k) := by
  unfold parse
  rw [linesFromText_shift, go_blank_prefix]
  have := go_shift k none (linesFromText t)
  simp only [shiftSt] at this
  exact this

theorem ofPara_shift (k : Nat) (p : Para) : Props.CopyrightObs.ofPara (shiftP k p) = shiftPara k (Props.CopyrightObs.ofPara p) := rfl

/-- **C10, the shift clause**: the copyright object of a text with k blank lines on top is that of the text with every
line range moved by exactly k, and nothing else changed -/
theorem shift_sound (t : Str) (k : Nat) :
    parasOf (List.replicate k '\n' ++ t) = (parasOf t).map (·.map (shiftPara k)) := by
  unfold parasOf fromText
  rw [parse_shift, fromFieldsGroups_shift]
  cases fromFieldsGroups (parse t) with
  | error e => rfl
  | ok ps =>
    simp only [Except.map, List.map_map]
    congr 1

/-- the shift clause as the check states it -/
theorem shift_clause (i : Input) :
    match (model i).base, (model i).shifted with
    | .ok ps, .ok qs => qs = ps.map (shiftPara i.k)
    | _, _ => True := by
  unfold model
  simp only
  rw [shift_sound]
  cases parasOf i.text with
  | error e => trivial
  | ok ps => rfl

end Props.C10S
