/-
Declarative form of the Debian version order on one component (upstream or revision), stated as
the property states it: the string is cut into alternating non-digit runs and digit runs; runs are
compared pairwise, non-digit runs character by character under a rank `rk` with "end of run"
as padding, digit runs by numeric value, a missing run counting as empty / zero.

`rk` is a parameter: with dpkg's `order` it is dpkg's order (proved equal to the transliterated
`verrevcmp` in `Proofs/Verrevcmp.lean`); with the implementation's table it is what the
implementation computes (`Proofs/VersionCompare.lean`).
-/
import DebInspector.Py.Str
import DebInspector.Proofs.PadLex

namespace Spec.VerOrder
open Py PadLex

def spanNonDigit : Str → Str × Str
  | [] => ([], [])
  | c :: cs => if c.isDigit then ([], c :: cs) else let r := spanNonDigit cs; (c :: r.1, r.2)

def spanDigits : Str → Str × Str
  | [] => ([], [])
  | c :: cs => if c.isDigit then let r := spanDigits cs; (c :: r.1, r.2) else ([], c :: cs)

theorem spanNonDigit_len (s : Str) : (spanNonDigit s).2.length ≤ s.length := by
  induction s with
  | nil => simp [spanNonDigit]
  | cons c cs ih => simp only [spanNonDigit]; split <;> simp <;> omega

theorem spanDigits_len (s : Str) : (spanDigits s).2.length ≤ s.length := by
  induction s with
  | nil => simp [spanDigits]
  | cons c cs ih => simp only [spanDigits]; split <;> simp <;> omega

/-- one token: a (possibly empty) non-digit run followed by a (possibly empty) digit run -/
abbrev Tok := Str × Nat

/-- what remains after the first token -/
def afterTok (s : Str) : Str := (spanDigits (spanNonDigit s).2).2

def firstTok (s : Str) : Tok := ((spanNonDigit s).1, digitsVal (spanDigits (spanNonDigit s).2).1)

theorem afterTok_lt (s : Str) (h : s ≠ []) : (afterTok s).length < s.length := by
  cases s with
  | nil => exact absurd rfl h
  | cons c cs =>
    unfold afterTok
    by_cases hd : c.isDigit = true
    · simp only [spanNonDigit, hd, if_true, spanDigits]
      have := spanDigits_len cs
      simp; omega
    · simp only [spanNonDigit, hd, Bool.false_eq_true, if_false]
      have h1 := spanNonDigit_len cs
      have h2 := spanDigits_len (spanNonDigit cs).2
      simp; omega

/-- the alternating runs of a component string -/
def tokens (s : Str) : List Tok :=
  if h : s = [] then [] else firstTok s :: tokens (afterTok s)
termination_by s.length
decreasing_by exact afterTok_lt s h

theorem tokens_nil : tokens [] = [] := by rw [tokens]; simp
theorem tokens_cons (s : Str) (h : s ≠ []) : tokens s = firstTok s :: tokens (afterTok s) := by
  rw [tokens]; simp [h]

/-- compare two characters (or "end of run" = `none`) by rank -/
def cmpRk (rk : Option Char → Int) (a b : Option Char) : Ordering := compare (rk a) (rk b)

/-- non-digit runs: character by character, the shorter run padded with "end of run" -/
def cmpRun (rk : Option Char → Int) (p q : Str) : Ordering :=
  cmpPad (cmpRk rk) none (p.map some) (q.map some)

def cmpNat (a b : Nat) : Ordering := compare (a : Int) (b : Int)

def cmpTok (rk : Option Char → Int) : Tok → Tok → Ordering := cmpProd (cmpRun rk) cmpNat

/-- the order on component strings: token by token, a missing token counting as (empty run, 0) -/
def cmpStr (rk : Option Char → Int) (a b : Str) : Ordering :=
  cmpPad (cmpTok rk) ([], 0) (tokens a) (tokens b)

def ordInt : Ordering → Int
  | .lt => -1
  | .eq => 0
  | .gt => 1

/-- the order on whole versions: epoch, then upstream, then revision -/
def cmpVer (rk : Option Char → Int) (a b : Nat × Str × Str) : Ordering :=
  (cmpNat a.1 b.1).then ((cmpStr rk a.2.1 b.2.1).then (cmpStr rk a.2.2 b.2.2))

/-! ### it is a total preorder, for every rank function -/

theorem cmpRk_pre (rk : Option Char → Int) : IsPre (cmpRk rk) := isPre_of_key rk

theorem cmpRun_pre (rk : Option Char → Int) : IsPre (cmpRun rk) :=
  (cmpPad_pre (cmpRk_pre rk) none).comap fun (p : Str) => p.map some

theorem cmpNat_pre : IsPre cmpNat := isPre_of_key (fun n : Nat => (n : Int))

theorem cmpTok_pre (rk : Option Char → Int) : IsPre (cmpTok rk) := cmpProd_pre (cmpRun_pre rk) cmpNat_pre

theorem cmpStr_pre (rk : Option Char → Int) : IsPre (cmpStr rk) :=
  (cmpPad_pre (cmpTok_pre rk) ([], 0)).comap tokens

theorem cmpVer_pre (rk : Option Char → Int) : IsPre (cmpVer rk) := by
  have h2 : IsPre (cmpProd (cmpStr rk) (cmpStr rk)) := cmpProd_pre (cmpStr_pre rk) (cmpStr_pre rk)
  exact cmpProd_pre cmpNat_pre h2

end Spec.VerOrder
