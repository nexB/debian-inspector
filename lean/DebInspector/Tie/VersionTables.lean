/-
Obligations over the generated version tables (`Generated/VersionTables.lean`,
`Generated/Unicode.lean`), re-checked whenever the translator regenerates them.
-/
import DebInspector.Proofs.VersionCompare
import DebInspector.Proofs.VersionParse
import DebInspector.Spec.DpkgOrder

namespace Tie.VersionTables
open Py Spec Spec.VerOrder Model.Version Proofs.VersionCompare Proofs.VersionParse

/-- the allowed characters are ASCII (`upChar_range`): a sweep over the code points below 128 covers them -/
theorem forall_upChar {P : Char → Prop}
    (h : ∀ n, n < 128 → Policy.upChar (Char.ofNat n) = true → P (Char.ofNat n))
    {c : Char} (hc : Policy.upChar c = true) : P c := by
  have := h c.toNat (by have := upChar_range hc; omega)
  rw [Char.ofNat_toNat] at this
  exact this hc

/-! ### `str.isdigit` on the allowed characters -/

theorem isdigit_ascii :
    (48, 57) ∈ Generated.isdigitRanges ∧ ∀ r ∈ Generated.isdigitRanges, r = (48, 57) ∨ 128 ≤ r.1 := by
  decide +kernel

theorem isDigitU_eq_isDigit {c : Char} (hu : Policy.upChar c = true) : isDigitU c = c.isDigit := by
  have hn := (upChar_range hu).2
  rw [Bool.eq_iff_iff, Char.isDigit_iff_toNat, isDigitU, inRanges, List.any_eq_true]
  constructor
  · rintro ⟨r, hr, h⟩
    rw [Bool.and_eq_true, decide_eq_true_eq, decide_eq_true_eq] at h
    rcases isdigit_ascii.2 r hr with rfl | hk
    · exact h
    · omega
  · exact fun h => ⟨_, isdigit_ascii.1, by simpa using h⟩

/-! ### the table is order-isomorphic to dpkg's `order()` on the allowed symbols -/

/-- end of run, and the 56 non-digit characters a component may contain -/
def syms : List (Option Char) :=
  none :: ("~ABCDEFGHIJKLMNOPQRSTUVWXYZabcdefghijklmnopqrstuvwxyz+-.".toList.map some)

/-- the symbols that dpkg ranks above the end of a run, lowest first -/
def aboveEnd : List Char :=
  ['A', 'B', 'C', 'D', 'E', 'F', 'G', 'H', 'I', 'J', 'K', 'L', 'M', 'N', 'O', 'P', 'Q', 'R', 'S', 'T', 'U', 'V',
   'W', 'X', 'Y', 'Z', 'a', 'b', 'c', 'd', 'e', 'f', 'g', 'h', 'i', 'j', 'k', 'l', 'm', 'n', 'o', 'p', 'q', 'r',
   's', 't', 'u', 'v', 'w', 'x', 'y', 'z', '+', '-', '.']

/-- `syms` without decoding the string literal: the kernel reads it as `String.ofList` of its characters -/
theorem syms_eq : syms = none :: some '~' :: aboveEnd.map some := by
  show none :: ((String.ofList _).toList.map some) = _
  rw [String.toList_ofList]; rfl

def ascending : List (Option Char) := some '~' :: none :: aboveEnd.map some

theorem mem_syms_iff {a : Option Char} : a ∈ syms ↔ a ∈ ascending := by
  rw [syms_eq]; exact (List.Perm.swap _ _ _).mem_iff

theorem syms_complete : ∀ n, n < 128 → Policy.upChar (Char.ofNat n) = true → (Char.ofNat n).isDigit = false →
    some (Char.ofNat n) ∈ ascending := by decide +kernel

theorem mem_syms {c : Char} (hu : Policy.upChar c = true) (hd : c.isDigit = false) : some c ∈ syms :=
  mem_syms_iff.mpr (forall_upChar (P := fun c => c.isDigit = false → some c ∈ ascending) syms_complete hu hd)

/-- every symbol has a rank in `characters_order`, and along the enumeration from `~` to `.` both the
implementation's ranks and dpkg's increase strictly (so a harmless renumbering of the table still proves) -/
theorem table_ascending : (∀ a ∈ ascending, (rankOf a).isSome = true) ∧
    PadLex.ascends modelRk ascending = true ∧ PadLex.ascends dpkgRk ascending = true := by decide +kernel

theorem rank_iso : ∀ a ∈ syms, ∀ b ∈ syms,
    compare (modelRk a) (modelRk b) = compare (dpkgRk a) (dpkgRk b) := fun a ha b hb =>
  PadLex.compare_eq_of_ascends modelRk dpkgRk ascending table_ascending.2.1 table_ascending.2.2
    a (mem_syms_iff.mp ha) b (mem_syms_iff.mp hb)

theorem table_keys : Generated.charOrder.length = syms.length := by rw [syms_eq]; rfl

theorem tableOK : TableOK where
  endRank := table_ascending.1 none (by decide)
  charRank c hu hd := table_ascending.1 _ (mem_syms_iff.mp (mem_syms hu hd))
  digitU _ := isDigitU_eq_isDigit

/-- a run of ranked symbols only -/
def SymRun (p : Str) : Prop := ∀ c ∈ p, some c ∈ syms

theorem cmpRun_iso (p q : Str) (hp : SymRun p) (hq : SymRun q) : cmpRun modelRk p q = cmpRun dpkgRk p q :=
  PadLex.cmpPad_congr (cmpRk modelRk) (cmpRk dpkgRk) none (· ∈ syms) List.mem_cons_self
    (fun a b ha hb => rank_iso a ha b hb) _ _ (List.forall_mem_map.mpr hp) (List.forall_mem_map.mpr hq)

theorem tokens_symRun (s : Str) (h : s.all Policy.upChar = true) : ∀ t ∈ tokens s, SymRun t.1 := by
  induction s using tokens.induct with
  | case1 => rw [tokens_nil]; exact fun _ h => nomatch h
  | case2 s e ih =>
    rw [tokens_cons s e, List.forall_mem_cons]
    exact ⟨fun c hc => mem_syms (mem_spanNonDigit h hc).1 (mem_spanNonDigit h hc).2, ih (afterTok_all s h)⟩

theorem cmpStr_iso (a b : Str) (ha : a.all Policy.upChar = true) (hb : b.all Policy.upChar = true) :
    cmpStr modelRk a b = cmpStr dpkgRk a b :=
  PadLex.cmpPad_congr (cmpTok modelRk) (cmpTok dpkgRk) ([], 0) (fun t => SymRun t.1) (fun _ h => nomatch h)
    (fun x y hx hy => by rw [cmpTok, cmpTok, PadLex.cmpProd, PadLex.cmpProd, cmpRun_iso x.1 y.1 hx hy])
    _ _ (tokens_symRun a ha) (tokens_symRun b hb)

end Tie.VersionTables
