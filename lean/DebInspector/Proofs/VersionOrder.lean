/-
Whole-version comparison: `compare_version_objects` / `compare_versions` compute
`Spec.VerOrder.cmpVer` under dpkg's ranks, for all accepted version strings.
-/
import DebInspector.Tie.VersionTables
import DebInspector.Proofs.VersionParse

namespace Proofs.VersionOrder
open Py Spec Spec.VerOrder PadLex Model.Version Proofs.VersionCompare Proofs.VersionParse Tie.VersionTables

theorem compareStrings_dpkg (a b : Str) (ha : a.all Policy.upChar = true) (hb : b.all Policy.upChar = true) :
    compareStrings a b = .ok (ordInt (cmpStr dpkgRk a b)) := by
  rw [compareStrings_eq tableOK a b ha hb, cmpStr_iso a b ha hb]

/-- a parsed version as the triple that `cmpVer` compares -/
def tupleOf (v : Ver) : Nat × Str × Str := (v.epoch, v.upstream, v.revision)

theorem compareVersionObjects_eq (a b : Ver)
    (hau : a.upstream.all Policy.upChar = true) (har : a.revision.all Policy.upChar = true)
    (hbu : b.upstream.all Policy.upChar = true) (hbr : b.revision.all Policy.upChar = true) :
    compareVersionObjects a b = .ok (ordInt (cmpVer dpkgRk (tupleOf a) (tupleOf b))) := by
  -- two empty revisions are not compared: they are order-equal
  have hrev : (if (!a.revision.isEmpty || !b.revision.isEmpty) = true then compareStrings a.revision b.revision
      else .ok 0) = .ok (ordInt (cmpStr dpkgRk a.revision b.revision)) := by
    split
    · exact compareStrings_dpkg _ _ har hbr
    · rename_i h
      have h : a.revision = [] ∧ b.revision = [] := by simpa using h
      rw [h.1, h.2, cmpStr_nil_nil]; rfl
  rw [compareVersionObjects, ite_cmpNat, compareStrings_dpkg _ _ hau hbu, cmpVer]
  dsimp only [tupleOf]
  cases cmpNat a.epoch b.epoch with
  | lt => rfl
  | gt => rfl
  | eq =>
    cases cmpStr dpkgRk a.upstream b.upstream with
    | lt => rfl
    | gt => rfl
    | eq => exact hrev

theorem fromString_components (s : Str) (v : Ver) (h : fromString s = .ok v) :
    v.upstream.all Policy.upChar = true ∧ v.revision.all Policy.upChar = true := by
  obtain ⟨hv, hs⟩ := fromString_ok s v h
  have := valid_components _ hv
  rw [← hs] at this
  exact this

/-- `compare_versions(a, b)`: whenever both strings are accepted, the result is the declarative dpkg order of their
dpkg decompositions -/
theorem compareVersions_eq (a b : Str) (va vb : Ver)
    (ha : fromString a = .ok va) (hb : fromString b = .ok vb) :
    compareVersions a b =
      .ok (ordInt (cmpVer dpkgRk (Policy.split (strip a)) (Policy.split (strip b)))) := by
  have ca := fromString_components a va ha
  have cb := fromString_components b vb hb
  rw [compareVersions, ha, hb, ← (fromString_ok a va ha).2, ← (fromString_ok b vb hb).2]
  exact compareVersionObjects_eq va vb ca.1 ca.2 cb.1 cb.2

theorem compareVersions_cases (a b : Str) :
    match compareVersions a b with
    | .error x => fromString a = .error x ∨ fromString b = .error x
    | .ok r => (∃ va vb, fromString a = .ok va ∧ fromString b = .ok vb) ∧
        r = ordInt (cmpVer dpkgRk (Policy.split (strip a)) (Policy.split (strip b))) := by
  cases ha : fromString a with
  | error x => rw [compareVersions, ha]; exact .inl rfl
  | ok va =>
    cases hb : fromString b with
    | error x => rw [compareVersions, ha, hb]; exact .inr rfl
    | ok vb => rw [compareVersions_eq a b va vb ha hb]; exact ⟨⟨va, vb, rfl, rfl⟩, rfl⟩

theorem compareVersions_error (a b : Str) (e : PyExc) (h : compareVersions a b = .error e) :
    e = .valueError := by
  have := compareVersions_cases a b
  rw [h] at this
  exact this.elim (fromString_error a e) (fromString_error b e)

end Proofs.VersionOrder
