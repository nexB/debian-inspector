/-
Split / join inversions for the Python string primitives: `sep.join(ps).split(sep) = ps`, `sep.join(s.split(sep)) = s`,
`" ".join(ws).split() = ws`, and trimming the pieces before or after splitting.
-/
import DebInspector.Proofs.StrLemmas
namespace Py

/-! ### `split(sep)` -/

theorem splitChar_cons_sep (sep : Char) (cs : Str) : splitChar sep (sep :: cs) = [] :: splitChar sep cs := by
  rw [splitChar, if_pos rfl]

theorem splitChar_cons_ne {c sep : Char} (h : c ≠ sep) (cs : Str) :
    splitChar sep (c :: cs) = (c :: (splitChar sep cs).headD []) :: (splitChar sep cs).tail := by
  rw [splitChar, if_neg h]
  cases splitChar sep cs <;> rfl

theorem splitChar_ne_nil (sep : Char) : ∀ s : Str, splitChar sep s ≠ []
  | [] => List.cons_ne_nil _ _
  | c :: cs => by
    by_cases h : c = sep
    · rw [h, splitChar_cons_sep]; exact List.cons_ne_nil _ _
    · rw [splitChar_cons_ne h]; exact List.cons_ne_nil _ _

theorem splitChar_headD_tail (sep : Char) (s : Str) :
    (splitChar sep s).headD [] :: (splitChar sep s).tail = splitChar sep s := by
  obtain ⟨p, ps, e⟩ := List.exists_cons_of_ne_nil (splitChar_ne_nil sep s)
  rw [e]; rfl

theorem splitChar_not_mem (sep : Char) (s : Str) (h : sep ∉ s) : splitChar sep s = [s] := by
  induction s with
  | nil => rfl
  | cons c cs ih =>
    have hc : c ≠ sep := fun e => h (by simp [e])
    have := ih (fun hm => h (List.mem_cons_of_mem _ hm))
    simp [splitChar, hc, this]

theorem sep_mem_of_two (sep : Char) (s : Str) (a b : Str) (rest : List Str) (h : splitChar sep s = a :: b :: rest) :
    sep ∈ s := by
  apply Decidable.byContradiction
  intro hn
  rw [splitChar_not_mem sep s hn] at h
  cases h

theorem splitChar_prefix (sep : Char) (w s : Str) (h : sep ∉ w) :
    splitChar sep (w ++ s) = (w ++ (splitChar sep s).headD []) :: (splitChar sep s).tail := by
  induction w with
  | nil => exact (splitChar_headD_tail sep s).symm
  | cons c cs ih =>
    have hc : c ≠ sep := fun e => h (by simp [e])
    rw [List.cons_append, splitChar_cons_ne hc, ih fun hm => h (List.mem_cons_of_mem _ hm)]; rfl

theorem splitChar_piece (sep : Char) (w rest : Str) (h : sep ∉ w) :
    splitChar sep (w ++ sep :: rest) = w :: splitChar sep rest := by
  rw [splitChar_prefix sep w _ h, splitChar_cons_sep, List.headD_cons, List.tail_cons, List.append_nil]

theorem dropLast_append_lastD {α} (l : List α) (d : α) (h : l ≠ []) : l.dropLast ++ [l.getLast?.getD d] = l := by
  rw [List.getLast?_eq_some_getLast h, Option.getD_some, List.dropLast_concat_getLast]

theorem splitChar_suffix (sep : Char) (s w : Str) (h : sep ∉ w) :
    splitChar sep (s ++ w) = (splitChar sep s).dropLast ++ [((splitChar sep s).getLast?.getD []) ++ w] := by
  induction s with
  | nil => simpa [splitChar] using splitChar_not_mem sep w h
  | cons c cs ih =>
    obtain ⟨p, ps, hs⟩ := List.exists_cons_of_ne_nil (splitChar_ne_nil sep cs)
    by_cases hc : c = sep
    · rw [List.cons_append, hc, splitChar_cons_sep, splitChar_cons_sep, ih, hs]
      simp [List.getLast?_cons_cons]
    · rw [List.cons_append, splitChar_cons_ne hc, splitChar_cons_ne hc, ih, hs]
      cases ps with
      | nil => simp
      | cons q qs => simp [List.getLast?_cons_cons]

theorem splitChar_no_sep (sep : Char) (s : Str) : ∀ p ∈ splitChar sep s, sep ∉ p := by
  induction s with
  | nil => intro p hp; simp [splitChar] at hp; subst hp; simp
  | cons c cs ih =>
    intro p hp
    by_cases hc : c = sep
    · rw [hc, splitChar_cons_sep] at hp
      rcases List.mem_cons.mp hp with rfl | hp
      · exact List.not_mem_nil
      · exact ih p hp
    · rw [← splitChar_headD_tail sep cs, List.forall_mem_cons] at ih
      rw [splitChar_cons_ne hc] at hp
      rcases List.mem_cons.mp hp with rfl | hp
      · exact fun hm => (List.mem_cons.mp hm).elim (fun e => hc e.symm) ih.1
      · exact ih.2 p hp

theorem splitChar_map (f : Char → Char) (sep : Char) (hf : ∀ c, (f c == sep) = (c == sep)) (s : Str) :
    splitChar sep (s.map f) = (splitChar sep s).map (·.map f) := by
  induction s with
  | nil => rfl
  | cons c cs ih =>
    have hc : f c = sep ↔ c = sep := by simpa using congrArg (· = true) (hf c)
    simp only [List.map_cons, splitChar, ih]
    by_cases e : c = sep
    · rw [if_pos e, if_pos (hc.mpr e)]; rfl
    · rw [if_neg e, if_neg (mt hc.mp e)]
      cases splitChar sep cs <;> rfl

/-! ### `join` -/

theorem join_cons_cons (sep x y : Str) (ys : List Str) : join sep (x :: y :: ys) = x ++ sep ++ join sep (y :: ys) := rfl

/-- `join1_*`: `join` with a one-character separator `[sep]` -/
theorem join1_cons2 (sep : Char) (p q : Str) (ps : List Str) :
    join [sep] (p :: q :: ps) = p ++ sep :: join [sep] (q :: ps) := by
  simp [join]

/-- a function with the three equations of `join` is `join`: the joins the models and specifications spell out for one
separator (`joinNl`, `joinSp`, ...) get the lemmas of `join` through this -/
theorem eq_join {f : List Str → Str} {sep : Str} (h0 : f [] = []) (h1 : ∀ x, f [x] = x)
    (h2 : ∀ x y ys, f (x :: y :: ys) = x ++ (sep ++ f (y :: ys))) (ls : List Str) : f ls = join sep ls := by
  induction ls with
  | nil => exact h0
  | cons l ls ih =>
    cases ls with
    | nil => exact h1 l
    | cons m ms => rw [h2, ih]; exact (List.append_assoc _ _ _).symm

theorem join_append (sep : Str) (a b : List Str) (ha : a ≠ []) (hb : b ≠ []) :
    join sep (a ++ b) = join sep a ++ sep ++ join sep b := by
  induction a with
  | nil => exact absurd rfl ha
  | cons x xs ih =>
    cases xs with
    | nil =>
      obtain ⟨y, ys, rfl⟩ := List.exists_cons_of_ne_nil hb
      rfl
    | cons z zs =>
      rw [List.cons_append, List.cons_append, join_cons_cons, join_cons_cons, ← List.cons_append, ih (by simp)]
      simp only [List.append_assoc]

theorem join1_append (sep : Char) (a b : List Str) (ha : a ≠ []) (hb : b ≠ []) :
    join [sep] (a ++ b) = join [sep] a ++ sep :: join [sep] b :=
  (join_append [sep] a b ha hb).trans (List.append_assoc _ _ _)

theorem join_cons_append (sep x s : Str) (T : List Str) : join sep ((x ++ s) :: T) = x ++ join sep (s :: T) := by
  cases T with
  | nil => rfl
  | cons t ts =>
    simp only [join_cons_cons, List.append_assoc]

/-- text after the last piece of one join and the first piece of the next are one piece -/
theorem join_snoc_glue (sep : Str) (X : List Str) (x s : Str) (T : List Str) :
    join sep (X ++ [x]) ++ join sep (s :: T) = join sep (X ++ (x ++ s) :: T) := by
  by_cases hX : X = []
  · rw [hX]; exact (join_cons_append sep x s T).symm
  · rw [join_append sep X _ hX (by simp), join_append sep X _ hX (by simp), join_cons_append, List.append_assoc]
    rfl

/-- a separator that ends in padding: the padding goes in front of the later pieces -/
theorem join_pad (sep pad x : Str) (xs : List Str) : join (sep ++ pad) (x :: xs) = join sep (x :: xs.map (pad ++ ·)) := by
  induction xs generalizing x with
  | nil => rfl
  | cons y ys ih =>
    rw [join_cons_cons, List.map_cons, join_cons_cons, ih y, join_cons_append]
    simp only [List.append_assoc]

theorem startsWith_join (sep x : Str) (xs : List Str) : startsWith (join sep (x :: xs)) x = true :=
  startsWith_iff_prefix.mpr <| by
    cases xs with
    | nil => exact List.prefix_refl x
    | cons y ys => exact (List.prefix_append x sep).trans (List.prefix_append _ _)

theorem endsWith_join (sep : Str) (xs : List Str) (y : Str) : endsWith (join sep (xs ++ [y])) y = true :=
  endsWith_iff_suffix.mpr <| by
    by_cases hx : xs = []
    · rw [hx]; exact List.suffix_refl y
    · rw [join_append sep xs [y] hx (by simp)]; exact List.suffix_append _ y

theorem join_ne_nil (sep p : Str) (ps : List Str) (h : p ≠ []) : join sep (p :: ps) ≠ [] := by
  cases ps with
  | nil => exact h
  | cons q qs => exact fun e => h (List.append_eq_nil_iff.mp (List.append_eq_nil_iff.mp e).1).1

/-- a text joined from non-empty pieces starts with a character of its first piece -/
theorem join_head {P : Char → Prop} (sep : Str) {xs : List Str} (hne : xs ≠ []) (h : ∀ x ∈ xs, x ≠ [] ∧ ∀ c ∈ x, P c)
    (X : Str) : ∃ c Y, join sep xs ++ X = c :: Y ∧ P c := by
  cases xs with
  | nil => exact absurd rfl hne
  | cons x rest =>
    obtain ⟨c, cs, rfl, hc⟩ := exists_cons_of_forall (h x (by simp)).1 (h x (by simp)).2
    cases rest <;> exact ⟨c, _, rfl, hc⟩

theorem mem_join (sep : Str) (ps : List Str) (c : Char) (h : c ∈ join sep ps) : c ∈ sep ∨ ∃ p ∈ ps, c ∈ p := by
  induction ps with
  | nil => cases h
  | cons p ps ih =>
    cases ps with
    | nil => exact Or.inr ⟨p, by simp, h⟩
    | cons q qs =>
      simp only [join, List.mem_append] at h
      rcases h with (h | h) | h
      · exact Or.inr ⟨p, by simp, h⟩
      · exact Or.inl h
      · rcases ih h with h | ⟨r, hr, hc⟩
        · exact Or.inl h
        · exact Or.inr ⟨r, List.mem_cons_of_mem _ hr, hc⟩

theorem map_join (f : Char → Char) (sep : Str) (ws : List Str) :
    (join sep ws).map f = join (sep.map f) (ws.map (·.map f)) := by
  induction ws with
  | nil => rfl
  | cons w rest ih =>
    cases rest with
    | nil => rfl
    | cons v vs => simp only [join, List.map_append, List.map_cons] at ih ⊢; rw [ih]

/-! ### `split` after `join`, `join` after `split` -/

theorem splitChar_join (sep : Char) (ps : List Str) (hne : ps ≠ []) (h : ∀ p ∈ ps, sep ∉ p) :
    splitChar sep (join [sep] ps) = ps := by
  induction ps with
  | nil => exact absurd rfl hne
  | cons p ps ih =>
    cases ps with
    | nil => simpa [join] using splitChar_not_mem sep p (h p (by simp))
    | cons q qs =>
      rw [join1_cons2, splitChar_piece sep p _ (h p (by simp)), ih (by simp) (fun x hx => h x (by simp [hx]))]

theorem join_splitChar (sep : Char) (s : Str) : join [sep] (splitChar sep s) = s := by
  induction s with
  | nil => rfl
  | cons c cs ih =>
    by_cases hc : c = sep
    · obtain ⟨p, ps, hs⟩ := List.exists_cons_of_ne_nil (splitChar_ne_nil sep cs)
      rw [hc, splitChar_cons_sep, hs, join1_cons2, ← hs, ih]; rfl
    · rw [splitChar_cons_ne hc]
      exact (join_cons_append [sep] [c] ((splitChar sep cs).headD []) (splitChar sep cs).tail).trans
        (by rw [splitChar_headD_tail, ih]; rfl)

theorem mem_of_mem_splitChar (sep : Char) (s p : Str) (hp : p ∈ splitChar sep s) : ∀ c ∈ p, c ∈ s := by
  intro c hc
  have : c ∈ join [sep] (splitChar sep s) := mem_join_of_mem sep _ p c hp hc
  rwa [join_splitChar] at this
where
  mem_join_of_mem (sep : Char) (ps : List Str) (p : Str) (c : Char) (hp : p ∈ ps) (hc : c ∈ p) : c ∈ join [sep] ps := by
    induction ps with
    | nil => cases hp
    | cons q qs ih =>
      cases qs with
      | nil => simp only [List.mem_singleton] at hp; subst hp; simpa [join] using hc
      | cons r rs =>
        rw [join1_cons2]
        rcases List.mem_cons.mp hp with rfl | hp
        · simp [hc]
        · simp only [List.mem_append, List.mem_cons]
          exact Or.inr (Or.inr (ih hp))

/-! ### the pieces, each trimmed -/

theorem map_strip_splitChar_strip (sep : Char) (hsep : isSpace sep = false) (s : Str) :
    (splitChar sep (strip s)).map strip = (splitChar sep s).map strip := by
  have nosep : ∀ w : Str, (∀ c ∈ w, isSpace c = true) → sep ∉ w := fun w hw => not_mem_of_all hw hsep
  obtain ⟨w1, w2, hw1, hw2, es⟩ := strip_decomp s
  conv => rhs; rw [es]
  rw [splitChar_prefix sep w1 _ (nosep w1 hw1), splitChar_suffix sep (strip s) w2 (nosep w2 hw2)]
  obtain ⟨p, ps, hs⟩ := List.exists_cons_of_ne_nil (splitChar_ne_nil sep (strip s))
  rw [hs]
  cases ps with
  | nil =>
    simp only [List.dropLast, List.getLast?_singleton, Option.getD_some, List.nil_append, List.headD_cons,
      List.tail_cons, List.map_cons, List.map_nil]
    rw [strip_prefix_space _ _ hw1, strip_suffix_space _ _ hw2]
  | cons q qs =>
    simp only [List.dropLast_cons_cons, List.cons_append, List.headD_cons, List.tail_cons, List.map_cons, List.map_append,
      List.map_nil]
    rw [strip_prefix_space _ _ hw1]
    congr 1
    have hl : ((p :: q :: qs).getLast?.getD []) = ((q :: qs).getLast?.getD []) := by
      simp [List.getLast?_cons_cons]
    rw [hl, strip_suffix_space _ _ hw2]
    have := congrArg (List.map strip) (dropLast_append_lastD (q :: qs) [] (by simp))
    simpa using this.symm

/-- `sep.join(pieces).split(sep)`, each part trimmed, for a separator padded with white space -/
theorem map_strip_splitChar_join (sep : Char) (hsep : isSpace sep = false) (w1 w2 : Str)
    (hw1 : ∀ c ∈ w1, isSpace c = true) (hw2 : ∀ c ∈ w2, isSpace c = true)
    (ps : List Str) (hne : ps ≠ []) (h : ∀ p ∈ ps, sep ∉ p) :
    (splitChar sep (join (w1 ++ sep :: w2) ps)).map strip = ps.map strip := by
  have nosep : ∀ w : Str, (∀ c ∈ w, isSpace c = true) → sep ∉ w := fun w hw => not_mem_of_all hw hsep
  induction ps with
  | nil => exact absurd rfl hne
  | cons p ps ih =>
    cases ps with
    | nil => rw [join, splitChar_not_mem sep p (h p (by simp))]
    | cons q qs =>
      have e : join (w1 ++ sep :: w2) (p :: q :: qs) = (p ++ w1) ++ sep :: (w2 ++ join (w1 ++ sep :: w2) (q :: qs)) := by
        simp [join]
      have hp : sep ∉ p ++ w1 := by simp [h p (by simp), nosep w1 hw1]
      rw [e, splitChar_piece sep _ _ hp, splitChar_prefix sep w2 _ (nosep w2 hw2), List.map_cons, List.map_cons,
        strip_suffix_space p w1 hw1, strip_prefix_space w2 _ hw2, List.map_cons, ← List.map_cons, splitChar_headD_tail,
        ih (by simp) (fun x hx => h x (List.mem_cons_of_mem _ hx))]

/-! ### `split()` -/

theorem splitWsAux_word (w rest cur : Str) (hw : ∀ c ∈ w, isSpace c = false) :
    splitWsAux (w ++ rest) cur = splitWsAux rest (w.reverse ++ cur) := by
  induction w generalizing cur with
  | nil => rfl
  | cons c cs ih =>
    simp only [List.cons_append, splitWsAux, hw c (by simp), Bool.false_eq_true, if_false]
    rw [ih (c :: cur) (fun d hd => hw d (by simp [hd]))]
    simp

theorem splitWs_join (ws : List Str) (h : ∀ w ∈ ws, w ≠ [] ∧ ∀ c ∈ w, isSpace c = false) :
    splitWs (join [' '] ws) = ws := by
  unfold splitWs
  induction ws with
  | nil => rfl
  | cons w ws ih =>
    obtain ⟨hne, hns⟩ := h w List.mem_cons_self
    -- after the word has been read the accumulator holds it reversed
    have hacc : (w.reverse ++ []).isEmpty = false ∧ (w.reverse ++ []).reverse = w := by
      rw [List.append_nil, List.isEmpty_reverse, List.reverse_reverse]
      exact ⟨List.isEmpty_eq_false_iff.mpr hne, rfl⟩
    cases ws with
    | nil =>
      have e := splitWsAux_word w [] [] hns
      rw [List.append_nil] at e
      rw [join, e, splitWsAux, hacc.1, hacc.2]; rfl
    | cons v vs =>
      rw [join1_cons2, splitWsAux_word w _ [] hns, splitWsAux, if_pos sp_space, hacc.1, hacc.2,
        ih fun x hx => h x (List.mem_cons_of_mem _ hx)]
      rfl

end Py
