/-
`Model.Version.toStr` against `fromString` (C04).
-/
import DebInspector.Proofs.VersionParse
import DebInspector.Proofs.SplitJoin

namespace Proofs.VersionPrint
open Py Spec Model.Version Proofs.VersionParse

/-! ### decimal printing -/

theorem natToStr_digits (n : Nat) : (natToStr n).all isAsciiDigit = true := by
  rw [List.all_eq_true]
  intro c hc
  exact Nat.isDigit_of_mem_toDigits (by decide) (by decide) hc

theorem natToStr_ne_nil (n : Nat) : natToStr n ≠ [] := Nat.toDigits_ne_nil

theorem digitsVal_natToStr (n : Nat) : digitsVal (natToStr n) = n :=
  Nat.ofDigitChars_toDigits (by decide) (by decide)

theorem digit_val_le {c : Char} (h : c.isDigit = true) : c.toNat - '0'.toNat ≤ 9 := by
  have := Char.isDigit_iff_toNat.mp h
  have e9 : '9'.toNat = '0'.toNat + 9 := rfl
  omega

theorem ofDigitChars_lt (l : Str) (h : l.all Char.isDigit = true) (init : Nat) :
    Nat.ofDigitChars 10 l init < 10 ^ l.length * (init + 1) := by
  induction l generalizing init with
  | nil => simp
  | cons c cs ih =>
    simp only [List.all_cons, Bool.and_eq_true] at h
    have hd := digit_val_le h.1
    rw [Nat.ofDigitChars_cons]
    have := ih h.2 (10 * init + (c.toNat - '0'.toNat))
    calc Nat.ofDigitChars 10 cs (10 * init + (c.toNat - '0'.toNat))
        < 10 ^ cs.length * (10 * init + (c.toNat - '0'.toNat) + 1) := this
      _ ≤ 10 ^ cs.length * (10 * (init + 1)) := Nat.mul_le_mul_left _ (by omega)
      _ = 10 ^ (c :: cs).length * (init + 1) := by
        rw [List.length_cons, Nat.pow_succ, Nat.mul_assoc]

theorem natToStr_length_le (es : Str) (hne : es ≠ []) (hd : es.all isAsciiDigit = true) :
    (natToStr (digitsVal es)).length ≤ es.length := by
  have hpos : 0 < es.length := List.length_pos_iff.mpr hne
  rw [natToStr, Nat.length_toDigits_le_iff (by decide) hpos]
  have := ofDigitChars_lt es hd 0
  simpa [digitsVal] using this

theorem digit_not_colon (ds : Str) (h : ds.all isAsciiDigit = true) : ':' ∉ ds :=
  not_mem_of_all (List.all_eq_true.mp h) (by decide)

/-! ### whitespace: printed versions are not changed by `strip` -/

/-- the characters a printed version is made of -/
def verChar (c : Char) : Bool := Policy.upChar c || c = ':'

theorem verChar_not_space {c : Char} (h : verChar c = true) : isSpace c = false := by
  have hr : 43 ≤ c.toNat ∧ c.toNat ≤ 126 := by
    rw [verChar, Bool.or_eq_true, decide_eq_true_eq] at h
    rcases h with h | rfl
    · exact upChar_range h
    · decide
  cases hs : isSpace c with
  | false => rfl
  | true => have := isSpace_range hs; omega

/-! ### what `fromString` guarantees about an accepted version -/

/-- what `toStr` prints before the upstream part: the epoch and a colon, unless the epoch is 0 -/
def epochPrefix (e : Nat) : Str := if e ≠ 0 then natToStr e ++ [':'] else []

theorem epochPrefix_append {e : Nat} (h : e ≠ 0) (x : Str) : epochPrefix e ++ x = natToStr e ++ ':' :: x := by
  rw [epochPrefix, if_pos h, List.append_assoc]; rfl

/-- the epoch can be printed and read back: it is the value of a digit string short enough for `int()` -/
def EpochOk (e : Nat) : Prop :=
  ∃ es : Str, es ≠ [] ∧ es.all isAsciiDigit = true ∧ digitsVal es = e ∧
    (Generated.intMaxStrDigits = 0 ∨ es.length ≤ Generated.intMaxStrDigits)

@[simp] theorem parseRevision_epoch (e : Nat) (rest : Str) : (parseRevision e rest).epoch = e := by
  unfold parseRevision; split <;> rfl

theorem pyIntDigits_ok_len (s : Str) (n : Nat) (h : pyIntDigits s = .ok n) :
    n = digitsVal s ∧ (Generated.intMaxStrDigits = 0 ∨ s.length ≤ Generated.intMaxStrDigits) := by
  unfold pyIntDigits at h
  split at h
  · cases h
  · rename_i hc
    cases h
    exact ⟨rfl, by omega⟩

theorem fromString_shape (s : Str) (v : Ver) (h : fromString s = .ok v) :
    ∃ e rest, afterEpoch rest = true ∧ v = parseRevision e rest ∧ (e = 0 ∨ EpochOk e) := by
  rw [fromString_eq] at h
  split at h
  · rename_i hv
    rcases split_first ':' (strip s) with hn | ⟨es, r, ht, hn⟩
    · rw [isValidVersion_not_mem hn] at hv
      rw [parseEpoch_not_mem hn] at h
      cases h
      exact ⟨0, _, hv, rfl, .inl rfl⟩
    · rw [ht, isValidVersion_split hn, Bool.and_eq_true, Bool.and_eq_true, Bool.not_eq_true',
        List.isEmpty_eq_false_iff] at hv
      rw [ht, parseEpoch_split hn] at h
      cases hpi : pyIntDigits es with
      | error x => rw [hpi] at h; cases h
      | ok n =>
        rw [hpi] at h
        cases h
        obtain ⟨rfl, hlen⟩ := pyIntDigits_ok_len _ _ hpi
        exact ⟨_, r, hv.2, rfl, .inr ⟨es, hv.1.1, hv.1.2, rfl, hlen⟩⟩
  · cases h

theorem pyIntDigits_natToStr (e : Nat) (h : EpochOk e) : pyIntDigits (natToStr e) = .ok e := by
  obtain ⟨es, hne, hd, rfl, hlen⟩ := h
  have hle := natToStr_length_le es hne hd
  rw [pyIntDigits, if_neg (by omega), digitsVal_natToStr]

theorem parseEpoch_print (e : Nat) (x : Str) (hx : ':' ∉ x) (he : e = 0 ∨ EpochOk e) :
    parseEpoch (epochPrefix e ++ x) = .ok (e, x) := by
  by_cases h0 : e = 0
  · subst h0; exact parseEpoch_not_mem hx
  · rw [epochPrefix_append h0, parseEpoch_split (digit_not_colon _ (natToStr_digits e)),
      pyIntDigits_natToStr e (he.resolve_left h0)]

theorem isValid_print (e : Nat) (x : Str) (hx : ':' ∉ x) : isValidVersion (epochPrefix e ++ x) = afterEpoch x := by
  by_cases h0 : e = 0
  · subst h0; exact isValidVersion_not_mem hx
  · rw [epochPrefix_append h0, isValidVersion_split (digit_not_colon _ (natToStr_digits e)), natToStr_digits,
      List.isEmpty_eq_false_iff.mpr (natToStr_ne_nil e)]
    rfl

theorem mem_epochPrefix {e : Nat} {c : Char} (h : c ∈ epochPrefix e) : isAsciiDigit c = true ∨ c = ':' := by
  unfold epochPrefix at h
  split at h
  · exact (List.mem_append.mp h).imp (List.all_eq_true.mp (natToStr_digits e) c) List.mem_singleton.mp
  · cases h

theorem epochPrefix_verChar (e : Nat) : ∀ c ∈ epochPrefix e, verChar c = true := fun c hc =>
  (mem_epochPrefix hc).elim (fun h => by rw [verChar, digit_upChar h]; rfl) (fun h => by rw [h]; rfl)

theorem epochPrefix_no_hyphen (e : Nat) : '-' ∉ epochPrefix e := fun h =>
  (mem_epochPrefix h).elim (by decide) (by decide)

theorem upChar_verChar {s : Str} (h : s.all Policy.upChar = true) : ∀ c ∈ s, verChar c = true :=
  fun c hc => by rw [verChar, List.all_eq_true.mp h c hc]; rfl

theorem validRest_verChar {r : Str} (h : Policy.validRest r = true) : ∀ c ∈ r, verChar c = true :=
  upChar_verChar (validRest_upChar h)

theorem verPrefix_eq (v : Ver) : verPrefix v = epochPrefix v.epoch ++ v.upstream := by
  unfold verPrefix epochPrefix; split <;> simp

theorem fromString_print (e : Nat) (he : e = 0 ∨ EpochOk e) (y : Str) (hy : afterEpoch y = true) :
    fromString (epochPrefix e ++ y) = .ok (parseRevision e y) := by
  have hync := (afterEpoch_validRest y hy).2
  have hall : ∀ c ∈ epochPrefix e ++ y, isSpace c = false := fun c hc =>
    verChar_not_space ((List.mem_append.mp hc).elim (epochPrefix_verChar e c) (upChar_verChar (afterEpoch_shape hy).2.1 c))
  rw [fromString_eq, strip_of_all hall, isValid_print e y hync, if_pos hy, parseEpoch_print e y hync he]

/-- C04: printing an accepted version gives a string that is accepted and parses to the same version -/
theorem fromString_toStr (s : Str) (v : Ver) (h : fromString s = .ok v) :
    fromString (toStr v) = .ok v := by
  obtain ⟨e, rest, hae, rfl, hep⟩ := fromString_shape s v h
  have hnc := (afterEpoch_validRest rest hae).2
  rw [toStr, verPrefix_eq]
  rcases split_last '-' rest with hm | ⟨u, r, rfl, hm⟩
  · -- the input had no revision: upstream = rest, revision = "0", and the printed form leaves it out
    rw [parseRevision_not_mem e hm]
    have hnh : '-' ∉ epochPrefix e ++ rest := fun m => (List.mem_append.mp m).elim (epochPrefix_no_hyphen e) hm
    rw [if_neg (by simp [hnh, isValid_print e rest hnc, hae]), fromString_print e hep rest hae, parseRevision_not_mem e hm]
  · rw [parseRevision_split e u hm]
    split
    · -- revision kept: the printed string is `epochPrefix ++ rest`
      rw [List.append_assoc, fromString_print e hep _ hae, parseRevision_split e u hm]
    · -- revision `0` elided: the prefix alone matches the pattern and has no hyphen
      rename_i hcond
      simp only [Bool.or_eq_true, Bool.not_eq_true', not_or, Bool.not_eq_false, decide_eq_true_eq,
        ne_eq, Decidable.not_not, List.contains_iff_mem] at hcond
      obtain ⟨⟨hr0, hnh⟩, hval⟩ := hcond
      have hnu : '-' ∉ u := fun m => hnh (List.mem_append_right _ m)
      have hucolon : ':' ∉ u := fun m => hnc (List.mem_append_left _ m)
      rw [isValid_print e u hucolon] at hval
      rw [fromString_print e hep u hval, parseRevision_not_mem e hnu, hr0]

end Proofs.VersionPrint
