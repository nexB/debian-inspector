/-
Lemmas on the line-tracking deb822 parser (`Model.Deb822`): the line classifiers, trailing-blank trimming,
and the generator loop `go` one step at a time.
-/
import DebInspector.Model.Deb822
import DebInspector.Proofs.StrLemmas

namespace Proofs.Deb822
open Py Model.Deb822

/-! ### the line classifiers -/

theorem mem_dropBlanksTabs {c : Char} {l : Str} (h : c ∈ dropBlanksTabs l) : c ∈ l := by
  induction l with
  | nil => simp [dropBlanksTabs] at h
  | cons d ds ih =>
    simp only [dropBlanksTabs] at h
    split at h
    · exact List.mem_cons_of_mem _ (ih h)
    · exact h

theorem cont_ne_nil {l : Str} (h : isCont l = true) : l ≠ [] := by
  rintro rfl; cases h

theorem cont_not_decl (l : Str) (h : isCont l = true) : isDecl l = false := by
  cases l with
  | nil => simp [isCont, headP] at h
  | cons c cs =>
    simp only [isCont, headP, Bool.and_eq_true, Bool.or_eq_true, decide_eq_true_eq] at h
    have : isLetterIC c = false := by
      rcases h.1 with e | e <;> subst e <;> decide
    simp [isDecl, headP, this]

theorem decl_not_cont (l : Str) (h : isDecl l = true) : isCont l = false := by
  cases hc : isCont l with
  | false => rfl
  | true => rw [cont_not_decl l hc] at h; cases h

theorem cont_not_blank (l : Str) (h : isCont l = true) : isBlank l = false := by
  simp only [isCont, Bool.and_eq_true, Bool.not_eq_true'] at h
  exact h.2

theorem space_not_nameChar : ∀ n ∈ Generated.spaceCodes, isNameChar (Char.ofNat n) = false := by decide +kernel

theorem nameChar_not_space {c : Char} (h : isNameChar c = true) : isSpace c = false := by
  cases hs : isSpace c with
  | false => rfl
  | true =>
    have := space_not_nameChar _ (List.contains_iff_mem.mp hs)
    rw [Char.ofNat_toNat, h] at this
    cases this

theorem letterIC_not_space {c : Char} (h : isLetterIC c = true) : isSpace c = false :=
  nameChar_not_space (by simp [isNameChar, h])

theorem decl_not_blank (l : Str) (h : isDecl l = true) : isBlank l = false := by
  cases l with
  | nil => cases h
  | cons c cs =>
    simp only [isDecl, headP, Bool.and_eq_true] at h
    simp [isBlank, letterIC_not_space h.1]

theorem dropNameChars_append (n rest : Str) (h : ∀ c ∈ n, isNameChar c = true) (hr : headP isNameChar rest = false) :
    dropNameChars (n ++ rest) = rest := by
  induction n with
  | nil =>
    cases rest with
    | nil => rfl
    | cons c cs => simp only [headP] at hr; simp [dropNameChars, hr]
  | cons c cs ih =>
    simp only [List.cons_append, dropNameChars, h c (by simp), if_true]
    exact ih (fun d hd => h d (by simp [hd]))

theorem isDecl_name_colon (n rest : Str) (hh : headP isLetterIC n = true) (h : ∀ c ∈ n, isNameChar c = true) :
    isDecl (n ++ ':' :: rest) = true := by
  have hc : headP isLetterIC (n ++ ':' :: rest) = true := by
    cases n with
    | nil => cases hh
    | cons c cs => exact hh
  rw [isDecl, hc, dropNameChars_append n _ h (by simp only [headP]; decide)]
  simp [headP]

theorem fromLine_name_colon (k : Nat) (n rest : Str) (hc : ':' ∉ n) :
    fromLine ⟨k, n ++ ':' :: rest⟩ =
      ⟨if lowerName (strip n) = licence then license else lowerName (strip n), [⟨k, strip rest⟩]⟩ := by
  simp only [fromLine, partitionChar_split ':' n rest hc]

/-! ### trailing-blank trimming -/

theorem rstripLines_cons_nil (l : NL) (ls : List NL) (h : rstripLines ls = []) :
    rstripLines (l :: ls) = if isBlank l.val then [] else [l] := by
  rw [rstripLines, h]

theorem rstripLines_cons_ne (l : NL) (ls : List NL) (h : rstripLines ls ≠ []) :
    rstripLines (l :: ls) = l :: rstripLines ls := by
  rw [rstripLines]
  cases hr : rstripLines ls with
  | nil => exact absurd hr h
  | cons r rs => rfl

theorem rstripLines_prefix (ls : List NL) : ∃ t, ls = rstripLines ls ++ t := by
  induction ls with
  | nil => exact ⟨[], rfl⟩
  | cons l ls ih =>
    obtain ⟨t, ht⟩ := ih
    simp only [rstripLines]
    cases hr : rstripLines ls with
    | nil =>
      by_cases hb : isBlank l.val = true
      · exact ⟨l :: ls, by simp [hb]⟩
      · exact ⟨ls, by simp [hb]⟩
    | cons r rs =>
      rw [hr] at ht
      exact ⟨t, congrArg (l :: ·) ht⟩

theorem rstripLines_sublist (ls : List NL) : (rstripLines ls).Sublist ls := by
  obtain ⟨t, ht⟩ := rstripLines_prefix ls
  have := List.sublist_append_left (rstripLines ls) t
  rwa [← ht] at this

theorem rstripLines_mem_or_blank (ls : List NL) : ∀ l ∈ ls, l ∈ rstripLines ls ∨ isBlank l.val = true := by
  induction ls with
  | nil => intro l hl; cases hl
  | cons a as ih =>
    intro l hl
    simp only [rstripLines]
    cases hr : rstripLines as with
    | nil =>
      rcases List.mem_cons.mp hl with rfl | hl
      · by_cases hb : isBlank l.val = true
        · exact Or.inr hb
        · simp [hb]
      · have := ih l hl
        rw [hr] at this
        rcases this with h | h
        · cases h
        · exact Or.inr h
    | cons r rs =>
      rcases List.mem_cons.mp hl with rfl | hl
      · simp
      · have := ih l hl
        rw [hr] at this
        rcases this with h | h
        · exact Or.inl (List.mem_cons_of_mem _ h)
        · exact Or.inr h

theorem rstripLines_nonblank_last (ls : List NL) (l : NL) (h : isBlank l.val = false) :
    rstripLines (ls ++ [l]) = ls ++ [l] := by
  induction ls with
  | nil => simp [rstripLines, h]
  | cons a as ih =>
    simp only [List.cons_append, rstripLines, ih]
    cases as <;> simp

theorem rstripLines_ne_nil_of_witness (ls : List NL) (w : NL) (hw : w ∈ ls) (hb : isBlank w.val = false) :
    rstripLines ls ≠ [] := by
  rcases rstripLines_mem_or_blank ls w hw with h | h
  · intro e; rw [e] at h; cases h
  · rw [hb] at h; cases h

theorem rstripLines_idem (ls : List NL) : rstripLines (rstripLines ls) = rstripLines ls := by
  induction ls with
  | nil => rfl
  | cons l ls ih =>
    by_cases h : rstripLines ls = []
    · rw [rstripLines_cons_nil l ls h]
      cases hb : isBlank l.val with
      | true => rfl
      | false => rw [if_neg Bool.false_ne_true, rstripLines_cons_nil l [] rfl, hb, if_neg Bool.false_ne_true]
    · rw [rstripLines_cons_ne l ls h, rstripLines_cons_ne l _ (by rw [ih]; exact h), ih]

theorem rstrip_fixed_last (ls : List NL) (h : rstripLines ls = ls) : ∀ l ∈ ls.getLast?, isBlank l.val = false := by
  induction ls with
  | nil => intro l hl; cases hl
  | cons x xs ih =>
    intro l hl
    by_cases hx : rstripLines xs = []
    · rw [rstripLines_cons_nil x xs hx] at h
      by_cases hb : isBlank x.val = true
      · simp [hb] at h
      · simp only [hb, Bool.false_eq_true, if_false, List.cons.injEq, true_and] at h
        subst h
        simp only [List.getLast?_singleton, Option.mem_def, Option.some.injEq] at hl
        subst hl
        simpa using hb
    · rw [rstripLines_cons_ne x xs hx] at h
      have hxs : rstripLines xs = xs := by simpa using h
      cases xs with
      | nil => exact absurd rfl (by rw [← hxs] at hx; exact hx)
      | cons y ys =>
        rw [List.getLast?_cons_cons] at hl
        exact ih hxs l hl

/-! ### line numbers -/

theorem numberFrom_append (k : Nat) (a b : List Str) :
    numberFrom k (a ++ b) = numberFrom k a ++ numberFrom (k + a.length) b := by
  induction a generalizing k with
  | nil => simp [numberFrom]
  | cons x xs ih =>
    simp only [List.cons_append, numberFrom, ih, List.length_cons]
    rw [show k + 1 + xs.length = k + (xs.length + 1) by omega]

theorem numberFrom_vals (k : Nat) (ls : List Str) : (numberFrom k ls).map (·.val) = ls := by
  induction ls generalizing k with
  | nil => rfl
  | cons l ls ih => simp [numberFrom, ih]

theorem numberFrom_nums (n : Nat) (ls : List Str) :
    (numberFrom n ls).map (·.num) = List.range' n ls.length := by
  induction ls generalizing n with
  | nil => rfl
  | cons l ls ih => simp [numberFrom, ih, List.range'_succ]

/-- the line numbers a result reports, in result order -/
def nums (ps : List (List Fld)) : List Nat := ps.flatMap fun g => g.flatMap fun f => f.lines.map (·.num)

/-- every field of a state, the open one included (last): what a declaration line finds to close -/
def closed : St → List Fld
  | none => []
  | some s => s.1 ++ [s.2]

/-- the line numbers a state holds: those of `closed st`, in order -/
def stNums : St → List Nat
  | none => []
  | some (done, cur) => (done ++ [cur]).flatMap fun f => f.lines.map (·.num)

theorem nums_append (a b : List (List Fld)) : nums (a ++ b) = nums a ++ nums b := by
  simp [nums]

theorem nums_flush (st : St) : (nums (flush st)).Sublist (stNums st) := by
  cases st with
  | none => simp [flush, nums]
  | some s =>
    obtain ⟨done, cur⟩ := s
    simp only [flush, nums, clean, stNums, List.flatMap_cons, List.flatMap_nil, List.append_nil]
    generalize done ++ [cur] = g
    induction g with
    | nil => simp
    | cons f fs ih =>
      simp only [List.map_cons, List.flatMap_cons]
      exact List.Sublist.append ((rstripLines_sublist f.lines).map _) ih

theorem stNums_addLine (s : List Fld × Fld) (l : NL) :
    stNums (some (addLine s l)) = stNums (some s) ++ [l.num] := by
  obtain ⟨done, cur⟩ := s
  simp [stNums, addLine]

theorem stNums_open (s : List Fld × Fld) (l : NL) :
    stNums (some (s.1 ++ [s.2], fromLine l)) = stNums (some s) ++ [l.num] := by
  obtain ⟨done, cur⟩ := s
  simp [stNums, fromLine]

/-! ### one step of the loop -/

theorem flush_some (s : List Fld × Fld) : flush (some s) = [clean (s.1 ++ [s.2])] := rfl

theorem go_nil (st : St) : go st [] = flush st := by rw [go]

theorem go_blank_none (l : NL) (rest : List NL) (hb : isBlank l.val = true) : go none (l :: rest) = go none rest := by
  rw [go.eq_def]
  simp only [hb, if_true, flush, List.nil_append]

theorem go_blank_open (s : List Fld × Fld) (l n : NL) (rest : List NL) (hb : isBlank l.val = true) :
    go (some s) (l :: n :: rest) =
      if !isDecl n.val && !isBlank n.val then go (some (addLine s ⟨l.num, rstrip l.val⟩)) (n :: rest)
      else flush (some s) ++ go none (n :: rest) := by
  rw [go, if_pos hb]

theorem go_blank_absorb (s : List Fld × Fld) (l n : NL) (rest : List NL) (hb : isBlank l.val = true)
    (hd : isDecl n.val = false) (hnb : isBlank n.val = false) :
    go (some s) (l :: n :: rest) = go (some (addLine s ⟨l.num, rstrip l.val⟩)) (n :: rest) := by
  rw [go_blank_open s l n rest hb, hd, hnb]
  rfl

theorem go_blank_break (s : List Fld × Fld) (l : NL) (rest : List NL) (hb : isBlank l.val = true)
    (hn : ∀ n ∈ rest.head?, isDecl n.val = true ∨ isBlank n.val = true) :
    go (some s) (l :: rest) = flush (some s) ++ go none rest := by
  cases rest with
  | nil => rw [go.eq_def]; simp only [hb, if_true]
  | cons n tl =>
    rw [go_blank_open s l n tl hb]
    rcases hn n rfl with h | h <;> simp [h]

theorem go_blank_flush (st : St) (l : NL) (rest : List NL) (hb : isBlank l.val = true)
    (hn : ∀ n ∈ rest.head?, isDecl n.val = true ∨ isBlank n.val = true) :
    go st (l :: rest) = flush st ++ go none rest := by
  cases st with
  | none => exact go_blank_none l rest hb
  | some s => exact go_blank_break s l rest hb hn

theorem go_cont_step (s : List Fld × Fld) (l : NL) (rest : List NL) (hnb : isBlank l.val = false)
    (hc : isCont l.val = true) : go (some s) (l :: rest) = go (some (addLine s ⟨l.num, rstrip l.val⟩)) rest := by
  rw [go.eq_def]
  simp only [hnb, Bool.false_eq_true, if_false, hc, if_true]

theorem go_decl_step_open (s : List Fld × Fld) (l : NL) (rest : List NL) (hnb : isBlank l.val = false)
    (hc : isCont l.val = false) (hd : isDecl l.val = true) :
    go (some s) (l :: rest) = go (some (s.1 ++ [s.2], fromLine l)) rest := by
  rw [go.eq_def]
  simp only [hnb, Bool.false_eq_true, if_false, hc, hd, if_true]

theorem go_decl_step_none (l : NL) (rest : List NL) (hnb : isBlank l.val = false) (hd : isDecl l.val = true) :
    go none (l :: rest) = go (some ([], fromLine l)) rest := by
  rw [go.eq_def]
  simp only [hnb, Bool.false_eq_true, if_false, hd, if_true]

theorem go_decl_step (st : St) (l : NL) (rest : List NL) (hd : isDecl l.val = true) :
    go st (l :: rest) = go (some (closed st, fromLine l)) rest := by
  cases st with
  | none => exact go_decl_step_none l rest (decl_not_blank _ hd) hd
  | some s => exact go_decl_step_open s l rest (decl_not_blank _ hd) (decl_not_cont _ hd) hd

theorem go_junk_open (s : List Fld × Fld) (l : NL) (rest : List NL) (hnb : isBlank l.val = false)
    (hc : isCont l.val = false) (hd : isDecl l.val = false) :
    go (some s) (l :: rest) = flush (some s) ++ [[⟨unknownName, [l]⟩]] ++ go none rest := by
  rw [go.eq_def]
  simp only [hnb, Bool.false_eq_true, if_false, hc, hd]

theorem go_junk_none (l : NL) (rest : List NL) (hnb : isBlank l.val = false) (hd : isDecl l.val = false) :
    go none (l :: rest) = [[⟨unknownName, [l]⟩]] ++ go none rest := by
  rw [go.eq_def]
  simp only [hnb, Bool.false_eq_true, if_false, hd]

/-- every step of the loop is one of four: the line joins the open field; a blank line closes the
paragraph; a declaration opens a field; an unparsable line closes the paragraph and stands alone -/
theorem go_step (st : St) (l : NL) (rest : List NL) :
    (∃ s, st = some s ∧ go st (l :: rest) = go (some (addLine s ⟨l.num, rstrip l.val⟩)) rest) ∨
    (isBlank l.val = true ∧ go st (l :: rest) = flush st ++ go none rest) ∨
    (isBlank l.val = false ∧ isDecl l.val = true ∧ go st (l :: rest) = go (some (closed st, fromLine l)) rest) ∨
    (isBlank l.val = false ∧ isDecl l.val = false ∧
      go st (l :: rest) = flush st ++ [[⟨unknownName, [l]⟩]] ++ go none rest) := by
  cases hb : isBlank l.val with
  | true =>
    cases st with
    | none => exact .inr (.inl ⟨rfl, go_blank_none l rest hb⟩)
    | some s =>
      cases rest with
      | nil => exact .inr (.inl ⟨rfl, go_blank_break s l [] hb (fun _ h => nomatch h)⟩)
      | cons n tl =>
        rw [go_blank_open s l n tl hb]
        split
        · exact .inl ⟨s, rfl, rfl⟩
        · exact .inr (.inl ⟨rfl, rfl⟩)
  | false =>
    cases st with
    | none =>
      cases hd : isDecl l.val with
      | true => exact .inr (.inr (.inl ⟨rfl, rfl, go_decl_step none l rest hd⟩))
      | false => exact .inr (.inr (.inr ⟨rfl, rfl, go_junk_none l rest hb hd⟩))
    | some s =>
      cases hc : isCont l.val with
      | true => exact .inl ⟨s, rfl, go_cont_step s l rest hb hc⟩
      | false =>
        cases hd : isDecl l.val with
        | true => exact .inr (.inr (.inl ⟨rfl, rfl, go_decl_step (some s) l rest hd⟩))
        | false => exact .inr (.inr (.inr ⟨rfl, rfl, go_junk_open s l rest hb hc hd⟩))

/-! ### line numbers through the loop -/

theorem nums_go (st : St) (ls : List NL) :
    (nums (go st ls)).Sublist (stNums st ++ ls.map (·.num)) := by
  induction ls generalizing st with
  | nil => simpa [go] using nums_flush st
  | cons l rest ih =>
    have hnone : (nums (go none rest)).Sublist (rest.map (·.num)) := ih none
    rw [List.map_cons]
    rcases go_step st l rest with ⟨s, rfl, e⟩ | ⟨_, e⟩ | ⟨_, _, e⟩ | ⟨_, _, e⟩ <;> rw [e]
    · have := ih (some (addLine s ⟨l.num, rstrip l.val⟩))
      rwa [stNums_addLine, List.append_assoc] at this
    · rw [nums_append]
      exact (nums_flush st).append (hnone.cons _)
    · have := ih (some (closed st, fromLine l))
      cases st with
      | none => exact this
      | some s => rwa [closed, stNums_open, List.append_assoc] at this
    · rw [nums_append, nums_append, List.append_assoc]
      exact (nums_flush st).append (hnone.cons_cons l.num)

end Proofs.Deb822
