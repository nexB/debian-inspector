/-
Lemmas about the Python string primitives of `Py/Str.lean`.
-/
import DebInspector.Py.Str
import DebInspector.Proofs.Chars

namespace Py

/-! ### `partition`, `rpartition`

A string either has no separator or splits at the first (last) one (`split_first`, `split_last`); `partition`
(`rpartition`) has one equation for each of the two shapes. -/

theorem partitionChar_append (sep : Char) (a rest : Str) (h : sep ∉ a) :
    partitionChar sep (a ++ rest) = (a ++ (partitionChar sep rest).1, (partitionChar sep rest).2) := by
  induction a with
  | nil => rfl
  | cons c cs ih =>
    have hc : c ≠ sep := fun e => h (by simp [e])
    simp [partitionChar, hc, ih fun m => h (List.mem_cons_of_mem _ m)]

theorem partitionChar_not_mem (sep : Char) (s : Str) (h : sep ∉ s) :
    partitionChar sep s = (s, false, []) := by
  simpa [partitionChar] using partitionChar_append sep s [] h

theorem partitionChar_split (sep : Char) (a b : Str) (h : sep ∉ a) :
    partitionChar sep (a ++ sep :: b) = (a, true, b) := by
  simpa [partitionChar] using partitionChar_append sep a (sep :: b) h

theorem split_first (sep : Char) (s : Str) : sep ∉ s ∨ ∃ a b, s = a ++ sep :: b ∧ sep ∉ a :=
  (Decidable.em (sep ∈ s)).symm.imp_right List.eq_append_cons_of_mem

theorem partitionChar_found_iff (sep : Char) (s : Str) :
    (partitionChar sep s).2.1 = true ↔ sep ∈ s := by
  rcases split_first sep s with h | ⟨a, b, rfl, ha⟩
  · simp [partitionChar_not_mem sep s h, h]
  · simp [partitionChar_split sep a b ha]

theorem partitionChar_spec (sep : Char) (s : Str) :
    let p := partitionChar sep s
    sep ∉ p.1 ∧ (p.2.1 = true → s = p.1 ++ sep :: p.2.2) ∧ (p.2.1 = false → p.1 = s ∧ p.2.2 = []) := by
  rcases split_first sep s with h | ⟨a, b, rfl, ha⟩
  · simp [partitionChar_not_mem sep s h, h]
  · simp [partitionChar_split sep a b ha, ha]

theorem rpartitionChar_not_mem (sep : Char) (s : Str) (h : sep ∉ s) :
    rpartitionChar sep s = ([], false, s) := by
  have : sep ∉ s.reverse := by simpa using h
  simp [rpartitionChar, partitionChar_not_mem sep _ this]

theorem rpartitionChar_split (sep : Char) (a b : Str) (h : sep ∉ b) :
    rpartitionChar sep (a ++ sep :: b) = (a, true, b) := by
  have hb : sep ∉ b.reverse := by simpa using h
  have e : (a ++ sep :: b).reverse = b.reverse ++ sep :: a.reverse := by simp
  simp [rpartitionChar, e, partitionChar_split sep _ _ hb]

theorem eq_append_cons_of_mem_last {sep : Char} {s : Str} (h : sep ∈ s) : ∃ a b, s = a ++ sep :: b ∧ sep ∉ b := by
  obtain ⟨a, b, e, ha⟩ := List.eq_append_cons_of_mem (List.mem_reverse.mpr h)
  exact ⟨b.reverse, a.reverse, by simpa using congrArg List.reverse e, by simpa using ha⟩

theorem split_last (sep : Char) (s : Str) : sep ∉ s ∨ ∃ a b, s = a ++ sep :: b ∧ sep ∉ b :=
  (Decidable.em (sep ∈ s)).symm.imp_right eq_append_cons_of_mem_last

theorem rpartitionChar_spec (sep : Char) (s : Str) :
    let p := rpartitionChar sep s
    (p.2.1 = true → s = p.1 ++ sep :: p.2.2 ∧ sep ∉ p.2.2) ∧
    (p.2.1 = false → sep ∉ s ∧ p.1 = [] ∧ p.2.2 = s) := by
  rcases split_last sep s with h | ⟨a, b, rfl, hb⟩
  · simp [rpartitionChar_not_mem sep s h, h]
  · simp [rpartitionChar_split sep a b hb, hb]

theorem rpartitionChar_found_iff (sep : Char) (s : Str) :
    (rpartitionChar sep s).2.1 = true ↔ sep ∈ s := by
  rcases split_last sep s with h | ⟨a, b, rfl, hb⟩
  · simp [rpartitionChar_not_mem sep s h, h]
  · simp [rpartitionChar_split sep a b hb]

/-! ### membership, `headP`, `lastP` -/

theorem all_congr_mem (l : Str) (p q : Char → Bool) (h : ∀ c ∈ l, p c = q c) : l.all p = l.all q := by
  induction l with
  | nil => rfl
  | cons c cs ih => simp only [List.all_cons, h c (by simp), ih (fun x hx => h x (by simp [hx]))]

theorem any_congr_mem (l : Str) (p q : Char → Bool) (h : ∀ c ∈ l, p c = q c) : l.any p = l.any q := by
  induction l with
  | nil => rfl
  | cons c cs ih => simp only [List.any_cons, h c (by simp), ih (fun x hx => h x (by simp [hx]))]

theorem not_mem_of_all {p : Char → Bool} {l : Str} (h : ∀ c ∈ l, p c = true) {c : Char} (hc : p c = false) : c ∉ l :=
  fun hm => by rw [h c hm] at hc; cases hc

theorem eq_cons_of_headP {p : Char → Bool} {s : Str} (h : headP p s = true) : ∃ c r, s = c :: r ∧ p c = true := by
  cases s with
  | nil => cases h
  | cons c r => exact ⟨c, r, rfl, h⟩

theorem exists_cons_of_forall {P : Char → Prop} {w : Str} (hne : w ≠ []) (h : ∀ c ∈ w, P c) : ∃ c cs, w = c :: cs ∧ P c := by
  cases w with
  | nil => exact absurd rfl hne
  | cons c cs => exact ⟨c, cs, rfl, h c List.mem_cons_self⟩

theorem headP_append_ne (p : Char → Bool) {a : Str} (b : Str) (ha : a ≠ []) : headP p (a ++ b) = headP p a := by
  obtain ⟨c, cs, rfl⟩ := List.exists_cons_of_ne_nil ha
  rfl

@[simp] theorem lastP_nil (p : Char → Bool) : lastP p [] = false := rfl
theorem headP_append_of_all (p : Char → Bool) (n rest : Str) (hne : n ≠ []) (hn : ∀ c ∈ n, p c = false) :
    headP p (n ++ rest) = false := by
  cases n with
  | nil => exact absurd rfl hne
  | cons c cs => exact hn c List.mem_cons_self

@[simp] theorem lastP_single (p : Char → Bool) (c : Char) : lastP p [c] = p c := rfl

theorem lastP_append_cons (p : Char → Bool) (a : Str) (c : Char) (b : Str) :
    lastP p (a ++ c :: b) = lastP p (c :: b) := by
  induction a with
  | nil => rfl
  | cons x xs ih =>
    cases xs with
    | nil => simp [lastP]
    | cons y ys => simpa [lastP] using ih

theorem lastP_reverse_cons (p : Char → Bool) (c : Char) (cur : Str) : lastP p (c :: cur).reverse = p c := by
  rw [List.reverse_cons, lastP_append_cons]
  rfl

theorem lastP_true_ne_nil {p : Char → Bool} {s : Str} (h : lastP p s = true) : s ≠ [] := by
  intro e; subst e; simp at h

theorem lastP_mem {p : Char → Bool} {s : Str} (h : lastP p s = true) : ∃ a c, s = a ++ [c] ∧ p c = true := by
  induction s with
  | nil => simp at h
  | cons x xs ih =>
    cases xs with
    | nil => exact ⟨[], x, rfl, by simpa using h⟩
    | cons y ys =>
      obtain ⟨a, c, e, hc⟩ := ih (by simpa [lastP] using h)
      exact ⟨x :: a, c, by simp [e], hc⟩

theorem lastP_append_ne (p : Char → Bool) (a b : Str) (hb : b ≠ []) : lastP p (a ++ b) = lastP p b := by
  obtain ⟨c, cs, rfl⟩ := List.exists_cons_of_ne_nil hb
  exact lastP_append_cons p a c cs

theorem lastP_cons_ne_nil (p : Char → Bool) (c : Char) (s : Str) (h : s ≠ []) : lastP p (c :: s) = lastP p s :=
  lastP_append_ne p [c] s h

theorem lastP_mono {p q : Char → Bool} (h : ∀ {c}, p c = true → q c = true) {s : Str} (hs : lastP p s = true) :
    lastP q s = true := by
  obtain ⟨a, c, rfl, hc⟩ := lastP_mem hs
  rw [lastP_append_cons]
  exact h hc

theorem lastP_of_all (p : Char → Bool) (s : Str) (hne : s ≠ []) (h : ∀ c ∈ s, p c = true) : lastP p s = true := by
  rcases List.eq_nil_or_concat s with e | ⟨a, c, rfl⟩
  · exact absurd e hne
  · rw [List.concat_eq_append, lastP_append_cons]
    exact h c (by simp)

theorem lastP_not (p : Char → Bool) {s : Str} (hne : s ≠ []) : lastP (fun c => !p c) s = !lastP p s := by
  rcases List.eq_nil_or_concat s with e | ⟨a, c, rfl⟩
  · exact absurd e hne
  · rw [List.concat_eq_append, lastP_append_cons, lastP_append_cons]; rfl

theorem lastP_false_of {l : Str} (hne : l ≠ []) (h : lastP isSpace l = false) :
    lastP (fun c => !isSpace c) l = true := by
  rw [lastP_not _ hne, h]; rfl

theorem lastP_of_not_mem {c : Char} {l : Str} (h : c ∉ l) : lastP (· = c) l = false := by
  cases hl : lastP (· = c) l with
  | false => rfl
  | true =>
    obtain ⟨a, d, e, hd⟩ := lastP_mem hl
    exact absurd (by rw [e, of_decide_eq_true hd]; simp) h

theorem lastP_ne_of_not_mem {c : Char} {s : Str} (hne : s ≠ []) (h : c ∉ s) : lastP (· != c) s = true :=
  lastP_of_all _ s hne fun _ hx => bne_iff_ne.mpr fun e => h (e ▸ hx)

/-! ### blank strings, `strip`, `lstrip`, `rstrip` -/

theorem isBlank_cons (c : Char) (l : Str) : isBlank (c :: l) = (isSpace c && isBlank l) := by
  simp [isBlank]

theorem rstrip_eq_nil_iff (l : Str) : rstrip l = [] ↔ isBlank l = true := by
  induction l with
  | nil => simp [rstrip, isBlank]
  | cons c cs ih =>
    simp only [rstrip, isBlank_cons]
    cases h : rstrip cs with
    | nil =>
      have := ih.mp h
      by_cases hc : isSpace c = true <;> simp [hc, this]
    | cons d ds =>
      have : isBlank cs = false := by
        cases hb : isBlank cs with
        | false => rfl
        | true => have := ih.mpr hb; rw [h] at this; cases this
      simp [this]

theorem rstrip_cons_of_nonblank (c : Char) (cs : Str) (h : isBlank (c :: cs) = false) :
    rstrip (c :: cs) = c :: rstrip cs := by
  rw [isBlank_cons] at h
  simp only [rstrip]
  cases hr : rstrip cs with
  | nil =>
    have hb := (rstrip_eq_nil_iff cs).mp hr
    have : isSpace c = false := by simpa [hb] using h
    simp [this]
  | cons d ds => rfl

theorem rstrip_idem (l : Str) : rstrip (rstrip l) = rstrip l := by
  induction l with
  | nil => simp [rstrip]
  | cons c cs ih =>
    simp only [rstrip]
    cases hr : rstrip cs with
    | nil =>
      by_cases hc : isSpace c = true
      · simp [hc, rstrip]
      · simp [hc, rstrip]
    | cons d ds =>
      rw [hr] at ih
      show rstrip (c :: d :: ds) = c :: d :: ds
      rw [rstrip, ih]

theorem lstrip_cons_nonspace (c : Char) (cs : Str) (h : isSpace c = false) : lstrip (c :: cs) = c :: cs := by
  simp [lstrip, h]

theorem lstrip_decomp (s : Str) : ∃ w, (∀ c ∈ w, isSpace c = true) ∧ s = w ++ lstrip s := by
  induction s with
  | nil => exact ⟨[], by simp, rfl⟩
  | cons c cs ih =>
    by_cases hc : isSpace c = true
    · obtain ⟨w, hw, e⟩ := ih
      refine ⟨c :: w, ?_, ?_⟩
      · intro d hd
        rcases List.mem_cons.mp hd with rfl | hd
        · exact hc
        · exact hw d hd
      · simp only [lstrip, hc, if_true, List.cons_append]
        rw [← e]
    · exact ⟨[], by simp, by simp [lstrip, hc]⟩

theorem rstrip_decomp (s : Str) : ∃ w, (∀ c ∈ w, isSpace c = true) ∧ s = rstrip s ++ w := by
  induction s with
  | nil => exact ⟨[], by simp, rfl⟩
  | cons c cs ih =>
    obtain ⟨w, hw, e⟩ := ih
    simp only [rstrip]
    cases hr : rstrip cs with
    | nil =>
      rw [hr] at e
      by_cases hc : isSpace c = true
      · refine ⟨c :: w, ?_, by simp [hc]; exact e⟩
        intro d hd
        rcases List.mem_cons.mp hd with rfl | hd
        · exact hc
        · exact hw d hd
      · exact ⟨w, hw, by simp [hc]; exact e⟩
    | cons d ds =>
      rw [hr] at e
      exact ⟨w, hw, by simp; exact e⟩

theorem strip_decomp (s : Str) : ∃ w1 w2, (∀ c ∈ w1, isSpace c = true) ∧ (∀ c ∈ w2, isSpace c = true) ∧
    s = w1 ++ (strip s ++ w2) := by
  obtain ⟨w1, hw1, e1⟩ := lstrip_decomp s
  obtain ⟨w2, hw2, e2⟩ := rstrip_decomp (lstrip s)
  exact ⟨w1, w2, hw1, hw2, by unfold strip; rw [← e2, ← e1]⟩

theorem rstrip_subset (l : Str) : ∀ c ∈ rstrip l, c ∈ l := by
  obtain ⟨w, _, e⟩ := rstrip_decomp l
  exact fun c hc => e ▸ List.mem_append_left w hc

theorem lstrip_subset (l : Str) : ∀ c ∈ lstrip l, c ∈ l := by
  obtain ⟨w, _, e⟩ := lstrip_decomp l
  exact fun c hc => e ▸ List.mem_append_right w hc

theorem lstrip_head (l : Str) : headP isSpace (lstrip l) = false := by
  induction l with
  | nil => rfl
  | cons a as ih =>
    simp only [lstrip]
    split
    · exact ih
    · rename_i h; simpa [headP] using h

theorem rstrip_head_of_head {l : Str} (h : headP isSpace l = false) : headP isSpace (rstrip l) = false := by
  cases l with
  | nil => rfl
  | cons a as =>
    simp only [rstrip]
    cases rstrip as with
    | nil => simp only [headP] at h; simp [h, headP]
    | cons d ds => simpa [headP] using h

theorem strip_head (l : Str) : headP isSpace (strip l) = false := rstrip_head_of_head (lstrip_head l)

theorem lstrip_of_head {l : Str} (h : headP isSpace l = false) : lstrip l = l := by
  cases l with
  | nil => rfl
  | cons a as => simp only [headP] at h; simp [lstrip, h]

theorem isBlank_of_head {l : Str} (h : headP isSpace l = false) (hne : l ≠ []) : isBlank l = false := by
  cases l with
  | nil => exact absurd rfl hne
  | cons a as => simp only [headP] at h; simp [isBlank, h]

theorem isBlank_of_last {l : Str} (h : lastP isSpace l = false) (hne : l ≠ []) : isBlank l = false := by
  obtain ⟨a, c, rfl⟩ := (List.eq_nil_or_concat l).resolve_left hne
  rw [List.concat_eq_append, lastP_append_cons] at h
  rw [List.concat_eq_append, isBlank, List.all_append, List.all_cons, show isSpace c = false from h, Bool.false_and,
    Bool.and_false]

theorem lstrip_rstrip_comm (l : Str) : lstrip (rstrip l) = rstrip (lstrip l) := by
  induction l with
  | nil => rfl
  | cons a as ih =>
    by_cases ha : isSpace a = true
    · simp only [lstrip, ha, if_true, rstrip]
      cases hr : rstrip as with
      | nil => rw [hr] at ih; simp [lstrip, ← ih]
      | cons d ds =>
        rw [hr] at ih
        show lstrip (a :: d :: ds) = _
        rw [lstrip, if_pos ha, ih]
    · have ha' : isSpace a = false := by simpa using ha
      simp only [lstrip, ha', Bool.false_eq_true, if_false]
      exact lstrip_of_head (rstrip_head_of_head (by simp [headP, ha']))

theorem strip_rstrip (l : Str) : strip (rstrip l) = strip l := by
  unfold strip; rw [lstrip_rstrip_comm, rstrip_idem]

theorem strip_idem (l : Str) : strip (strip l) = strip l := by
  rw [strip, lstrip_of_head (strip_head l), strip, rstrip_idem]

theorem strip_blank_nil (y : Str) (h : isBlank (strip y) = true) : strip y = [] := by
  have := (rstrip_eq_nil_iff (strip y)).mpr h
  unfold strip at this ⊢
  rw [rstrip_idem] at this
  exact this

theorem isBlank_lstrip (l : Str) : isBlank (lstrip l) = isBlank l := by
  induction l with
  | nil => rfl
  | cons a as ih =>
    by_cases ha : isSpace a = true
    · simp [lstrip, ha, isBlank_cons, ih]
    · simp [lstrip, ha]

theorem strip_ne_nil {l : Str} (h : isBlank l = false) : strip l ≠ [] := by
  unfold strip
  intro e
  have := (rstrip_eq_nil_iff _).mp e
  rw [isBlank_lstrip, h] at this
  cases this

theorem isBlank_append (a b : Str) : isBlank (a ++ b) = (isBlank a && isBlank b) := by
  simp [isBlank, List.all_append]

theorem rstrip_append_nonblank (a b : Str) (hb : isBlank b = false) : rstrip (a ++ b) = a ++ rstrip b := by
  induction a with
  | nil => rfl
  | cons c cs ih =>
    have : isBlank (c :: (cs ++ b)) = false := by rw [isBlank_cons, isBlank_append, hb]; simp
    rw [List.cons_append, rstrip_cons_of_nonblank _ _ this, ih]; rfl

theorem isBlank_rstrip_eq (l : Str) : isBlank (rstrip l) = isBlank l := by
  rw [Bool.eq_iff_iff, ← rstrip_eq_nil_iff, ← rstrip_eq_nil_iff, rstrip_idem]

theorem isBlank_rstrip {l : Str} (h : isBlank l = false) : isBlank (rstrip l) = false := by
  rw [isBlank_rstrip_eq, h]

theorem lstrip_append_nonblank (a b : Str) (ha : isBlank a = false) : lstrip (a ++ b) = lstrip a ++ b := by
  induction a with
  | nil => simp [isBlank] at ha
  | cons c cs ih =>
    by_cases hc : isSpace c = true
    · have : isBlank cs = false := by rw [isBlank_cons, hc] at ha; simpa using ha
      simp [lstrip, hc, ih this]
    · simp [lstrip, hc]

theorem rstrip_of_last (m : Str) (h : lastP (fun c => !isSpace c) m = true) : rstrip m = m := by
  induction m with
  | nil => simp [lastP] at h
  | cons c cs ih =>
    cases cs with
    | nil =>
      simp only [lastP, Bool.not_eq_true'] at h
      simp [rstrip, h]
    | cons d ds =>
      have := ih (by simpa [lastP] using h)
      simp only [rstrip] at this ⊢
      rw [this]

theorem rstrip_of_lastNonspace (s : Str) (hne : s ≠ []) (h : lastP isSpace s = false) : rstrip s = s :=
  rstrip_of_last s (by rw [lastP_not _ hne, h]; rfl)

theorem lstrip_all_space_append (w s : Str) (hw : ∀ c ∈ w, isSpace c = true) : lstrip (w ++ s) = lstrip s := by
  induction w with
  | nil => rfl
  | cons c cs ih =>
    simp only [List.cons_append, lstrip, hw c (by simp), if_true]
    exact ih (fun d hd => hw d (by simp [hd]))

theorem rstrip_append_all_space (v sp : Str) (hs : ∀ c ∈ sp, isSpace c = true) : rstrip (v ++ sp) = rstrip v := by
  induction v with
  | nil => simp [(rstrip_eq_nil_iff sp).mpr (List.all_eq_true.mpr hs), rstrip]
  | cons c cs ih => simp only [List.cons_append, rstrip, ih]

/-- `m` is given trimmed the way the models produce it: no space first (true of `[]` too), a non-space last (so `m ≠ []`) -/
theorem strip_core (a m b : Str) (ha : ∀ c ∈ a, isSpace c = true) (hb : ∀ c ∈ b, isSpace c = true)
    (hh : headP isSpace m = false) (hl : lastP (fun c => !isSpace c) m = true) : strip (a ++ m ++ b) = m := by
  unfold strip
  rw [List.append_assoc, lstrip_all_space_append a _ ha]
  have hhm : headP isSpace (m ++ b) = false := by rw [headP_append_ne _ b (lastP_true_ne_nil hl), hh]
  rw [lstrip_of_head hhm, rstrip_append_all_space _ _ hb, rstrip_of_last m hl]

theorem strip_of_trimmed {s : Str} (hh : headP isSpace s = false) (hl : lastP (fun c => !isSpace c) s = true) :
    strip s = s := by
  have := strip_core [] s [] (List.forall_mem_nil _) (List.forall_mem_nil _) hh hl
  rwa [List.nil_append, List.append_nil] at this

theorem strip_of_head_last {s : Str} (hh : headP isSpace s = false) (hl : lastP isSpace s = false) : strip s = s := by
  by_cases hne : s = []
  · rw [hne]; rfl
  · exact strip_of_trimmed hh (by rw [lastP_not _ hne, hl]; rfl)

theorem strip_padded (a v b : Str) (ha : ∀ c ∈ a, isSpace c = true) (hb : ∀ c ∈ b, isSpace c = true)
    (hv : ∀ c ∈ v, isSpace c = false) : strip (a ++ v ++ b) = v := by
  cases v with
  | nil =>
    have hab : ∀ c ∈ a ++ [] ++ b, isSpace c = true := by simpa using fun c hc => hc.elim (ha c) (hb c)
    rw [strip, ← List.append_nil (a ++ [] ++ b), lstrip_all_space_append _ _ hab]; rfl
  | cons c cs =>
    exact strip_core a _ b ha hb (hv c (by simp)) (lastP_of_all _ _ (by simp) (fun d hd => by simp [hv d hd]))

theorem strip_all_space (w : Str) (hw : ∀ c ∈ w, isSpace c = true) : strip w = [] := by
  simpa using strip_padded w [] [] hw (List.forall_mem_nil _) (List.forall_mem_nil _)

theorem nonblank_of_strip (x : Str) (h : isBlank (strip x) = false) : isBlank x = false := by
  cases hb : isBlank x with
  | false => rfl
  | true => rw [strip_all_space x (List.all_eq_true.mp hb)] at h; cases h

theorem strip_of_all {s : Str} (h : ∀ c ∈ s, isSpace c = false) : strip s = s := by
  simpa using strip_padded [] s [] (List.forall_mem_nil _) (List.forall_mem_nil _) h

theorem content_decomp (s : Str) : s = List.replicate (s.takeWhile (· == ' ')).length ' ' ++ s.dropWhile (· == ' ') := by
  induction s with
  | nil => rfl
  | cons c cs ih =>
    by_cases h : c = ' '
    · subst h
      simp only [List.takeWhile_cons, List.dropWhile_cons, beq_self_eq_true, if_true, List.length_cons, List.replicate_succ,
        List.cons_append]
      rw [← ih]
    · have : (c == ' ') = false := by simpa using h
      simp [this]

theorem takeWhile_space_prefix (w rest : Str) (hw : ∀ c ∈ w, isSpace c = true) (hr : headP isSpace rest = false) :
    (w ++ rest).takeWhile isSpace = w := by
  induction w with
  | nil =>
    cases rest with
    | nil => rfl
    | cons c cs => simp only [headP] at hr; simp [hr]
  | cons c cs ih =>
    simp only [List.cons_append, List.takeWhile, hw c (by simp)]
    rw [ih (fun x hx => hw x (by simp [hx]))]

theorem mem_strip_iff (s : Str) (c : Char) (hc : isSpace c = false) : c ∈ strip s ↔ c ∈ s := by
  obtain ⟨w1, w2, h1, h2, e⟩ := strip_decomp s
  have n1 : c ∉ w1 := not_mem_of_all h1 hc
  have n2 : c ∉ w2 := not_mem_of_all h2 hc
  conv => rhs; rw [e]
  simp [n1, n2]

theorem strip_prefix_space (w p : Str) (hw : ∀ c ∈ w, isSpace c = true) : strip (w ++ p) = strip p := by
  unfold strip; rw [lstrip_all_space_append w p hw]

theorem strip_sp (s : Str) : strip (' ' :: s) = strip s :=
  strip_prefix_space [' '] s fun _ hc => List.mem_singleton.mp hc ▸ sp_space

theorem strip_suffix_space (p w : Str) (hw : ∀ c ∈ w, isSpace c = true) : strip (p ++ w) = strip p := by
  unfold strip
  by_cases hb : isBlank p = true
  · have hall : ∀ c ∈ p ++ w, isSpace c = true := by
      intro c hc
      rcases List.mem_append.mp hc with h | h
      · exact (List.all_eq_true.mp hb) c h
      · exact hw c h
    have h1 : isBlank (lstrip (p ++ w)) = true := by rw [isBlank_lstrip]; exact List.all_eq_true.mpr hall
    have h2 : isBlank (lstrip p) = true := by rw [isBlank_lstrip]; exact hb
    rw [(rstrip_eq_nil_iff _).mpr h1, (rstrip_eq_nil_iff _).mpr h2]
  · have hb' : isBlank p = false := by simpa using hb
    rw [lstrip_append_nonblank p w hb', rstrip_append_all_space _ _ hw]

/-! ### `replace` of one character -/

theorem replace_inverse (n : Str) (h : '_' ∉ n) : replaceChar '_' '-' (replaceChar '-' '_' n) = n := by
  induction n with
  | nil => rfl
  | cons c cs ih =>
    have hc : c ≠ '_' := fun e => h (by simp [e])
    have := ih (fun hm => h (by simp [hm]))
    simp only [replaceChar, List.map_cons, List.map_map] at this ⊢
    rw [this]
    by_cases e : c = '-'
    · subst e; simp
    · simp [e, hc]

theorem replace_idem (s : Str) : replaceChar '-' '_' (replaceChar '-' '_' s) = replaceChar '-' '_' s := by
  unfold replaceChar
  rw [List.map_map]
  apply List.map_congr_left
  intro c _
  by_cases h : c = '-'
  · subst h; decide
  · simp [h]

/-! ### `startsWith`, `endsWith` -/

theorem startsWith_iff_prefix {s p : Str} : startsWith s p = true ↔ p <+: s := by
  induction p generalizing s with
  | nil => cases s <;> simp [startsWith]
  | cons c cs ih =>
    cases s with
    | nil => simp [startsWith]
    | cons d ds =>
      simp only [startsWith, Bool.and_eq_true, beq_iff_eq, List.cons_prefix_cons, ih]
      exact and_congr_left' eq_comm

theorem endsWith_iff_suffix {s q : Str} : endsWith s q = true ↔ q <:+ s :=
  startsWith_iff_prefix.trans List.reverse_prefix

theorem startsWith_self_append (w x : Str) : startsWith (w ++ x) w = true :=
  startsWith_iff_prefix.mpr (List.prefix_append w x)

theorem endsWith_append_self (x w : Str) : endsWith (x ++ w) w = true :=
  endsWith_iff_suffix.mpr (List.suffix_append x w)

theorem startsWith_decomp (s p : Str) (h : startsWith s p = true) : s = p ++ s.drop p.length :=
  (List.prefix_iff_eq_append.mp (startsWith_iff_prefix.mp h)).symm

theorem endsWith_decomp (s q : Str) (h : endsWith s q = true) : s = s.take (s.length - q.length) ++ q :=
  (List.suffix_iff_eq_append.mp (endsWith_iff_suffix.mp h)).symm

theorem endsWith_of_length_le (s q1 q2 : Str) (h1 : endsWith s q1 = true) (h2 : endsWith s q2 = true)
    (hl : q2.length ≤ q1.length) : endsWith q1 q2 = true :=
  endsWith_iff_suffix.mpr
    (List.suffix_of_suffix_length_le (endsWith_iff_suffix.mp h2) (endsWith_iff_suffix.mp h1) hl)

theorem endsWith_comparable (s q1 q2 : Str) (h1 : endsWith s q1 = true) (h2 : endsWith s q2 = true) :
    endsWith q1 q2 = true ∨ endsWith q2 q1 = true :=
  (Nat.le_total q2.length q1.length).imp (endsWith_of_length_le s q1 q2 h1 h2) (endsWith_of_length_le s q2 q1 h2 h1)

theorem startsWith_endsWith_mid (s p q : Str) (h1 : startsWith s p = true) (h2 : endsWith s q = true)
    (hl : p.length + q.length ≤ s.length) :
    s = p ++ (s.drop p.length).take (s.length - p.length - q.length) ++ q := by
  have hq : q <:+ s.drop p.length :=
    List.suffix_of_suffix_length_le (endsWith_iff_suffix.mp h2) (List.drop_suffix _ _) (by rw [List.length_drop]; omega)
  have e := List.suffix_iff_eq_append.mp hq
  rw [List.length_drop] at e
  conv => lhs; rw [startsWith_decomp s p h1, ← e]
  exact (List.append_assoc _ _ _).symm

theorem startsWith_append_cons (n : Str) (c : Char) (rest p : Str) (hp : p ≠ []) (hc : c ∉ p)
    (hl : ∀ x ∈ p.getLast?, x ∉ n) : startsWith (n ++ c :: rest) p = false := by
  induction n generalizing p with
  | nil =>
    cases p with
    | nil => exact absurd rfl hp
    | cons p0 ps =>
      have : c ≠ p0 := fun e => hc (by simp [e])
      simp [startsWith, this]
  | cons a n ih =>
    cases p with
    | nil => exact absurd rfl hp
    | cons p0 ps =>
      simp only [List.cons_append, startsWith, Bool.and_eq_false_iff, beq_eq_false_iff_ne]
      cases ps with
      | nil => exact .inl fun e => hl p0 rfl (by simp [e])
      | cons p1 ps' =>
        exact .inr (ih (p1 :: ps') (by simp) (fun h => hc (List.mem_cons_of_mem _ h))
          fun x hx hm => hl x (by simpa [List.getLast?_cons_cons] using hx) (List.mem_cons_of_mem _ hm))

/-- `s` starts with `p`, ends with `q`, and only blanks, at least one, lie between -/
theorem between_blanks (s p q : Str) (n k : Nat) (hn : p.length = n) (hk : n + q.length = k)
    (h1 : startsWith s p = true) (h2 : endsWith s q = true) (h3 : k < s.length)
    (h4 : ∀ c ∈ (s.drop n).take (s.length - k), c = ' ') :
    ∃ mid, s = (p ++ mid) ++ ' ' :: q ∧ ∀ c ∈ mid, c = ' ' := by
  subst hn hk
  have e := startsWith_endsWith_mid s p q h1 h2 (Nat.le_of_lt h3)
  rw [Nat.sub_sub] at e
  generalize (s.drop p.length).take (s.length - (p.length + q.length)) = m at e h4
  have hne : m ≠ [] := fun h0 => by
    rw [e, h0, List.append_nil, List.length_append] at h3
    exact Nat.lt_irrefl _ h3
  obtain ⟨mid, last, rfl⟩ := (List.eq_nil_or_concat m).resolve_left hne
  rw [List.concat_eq_append] at e h4
  refine ⟨mid, ?_, fun c hc => h4 c (List.mem_append_left _ hc)⟩
  rw [e, h4 last (List.mem_append_right _ (List.mem_singleton_self _)), List.append_assoc, List.append_assoc, List.append_assoc]
  rfl

theorem startsWith_sp_cons (c d : Char) (r : Str) : startsWith (' ' :: c :: r) [' ', d] = (c == d) := by
  simp [startsWith]

theorem ne_sp_of_head (c : Char) (cs : Str) (h : headP isSpace (c :: cs) = false) : c ≠ ' ' :=
  fun e => by rw [e, headP, sp_space] at h; cases h

theorem dropWhile_sp_id (s : Str) (h : headP isSpace s = false) : s.dropWhile (· == ' ') = s := by
  cases s with
  | nil => rfl
  | cons c cs => simp [ne_sp_of_head c cs h]

theorem startsWith_sp_of_head (s : Str) (h : headP isSpace s = false) : startsWith s [' '] = false := by
  cases s with
  | nil => rfl
  | cons c cs => simp [startsWith, ne_sp_of_head c cs h]

/-! ### `<` on strings: a strict total order -/

theorem strLt_cons (a b : Char) (as bs : Str) :
    strLt (a :: as) (b :: bs) = true ↔ a.toNat < b.toNat ∨ a = b ∧ strLt as bs = true := by
  rw [strLt]
  rcases Nat.lt_trichotomy a.toNat b.toNat with h | h | h
  · simp [h]
  · cases Char.toNat_inj.mp h
    simp
  · have h' : ¬ a.toNat < b.toNat := Nat.lt_asymm h
    have hne : a ≠ b := fun e => by subst e; exact Nat.lt_irrefl _ h
    simp [h, h', hne]

theorem strLt_irrefl (a : Str) : strLt a a = false := by
  induction a with
  | nil => rfl
  | cons c cs ih => simp [strLt, ih]

theorem strLt_trans (a b c : Str) (h1 : strLt a b = true) (h2 : strLt b c = true) : strLt a c = true := by
  induction a generalizing b c with
  | nil =>
    cases b with
    | nil => cases h1
    | cons y ys => cases c with
      | nil => cases h2
      | cons z zs => rfl
  | cons x xs ih =>
    cases b with
    | nil => cases h1
    | cons y ys =>
      cases c with
      | nil => cases h2
      | cons z zs =>
        rw [strLt_cons] at h1 h2 ⊢
        rcases h1 with h1 | ⟨rfl, h1⟩ <;> rcases h2 with h2 | ⟨rfl, h2⟩
        · exact Or.inl (Nat.lt_trans h1 h2)
        · exact Or.inl h1
        · exact Or.inl h2
        · exact Or.inr ⟨rfl, ih _ _ h1 h2⟩

theorem strLt_total (a b : Str) (hne : a ≠ b) (h : strLt a b = false) : strLt b a = true := by
  induction a generalizing b with
  | nil =>
    cases b with
    | nil => exact absurd rfl hne
    | cons y ys => cases h
  | cons x xs ih =>
    cases b with
    | nil => rfl
    | cons y ys =>
      have h' : ¬ (x.toNat < y.toNat ∨ x = y ∧ strLt xs ys = true) := by rw [← strLt_cons, h]; simp
      rw [strLt_cons]
      rcases Nat.lt_trichotomy x.toNat y.toNat with hlt | heq | hgt
      · exact absurd (Or.inl hlt) h'
      · cases Char.toNat_inj.mp heq
        refine Or.inr ⟨rfl, ih ys (fun e => hne (by rw [e])) ?_⟩
        cases hs : strLt xs ys with
        | false => rfl
        | true => exact absurd (Or.inr ⟨rfl, hs⟩) h'
      · exact Or.inl hgt

theorem strLt_asymm (a b : Str) (h : strLt a b = true) : strLt b a = false := by
  cases hb : strLt b a with
  | false => rfl
  | true =>
    have := strLt_trans a b a h hb
    rw [strLt_irrefl] at this; cases this

theorem pairwise_lt_nodup (l : List Str) (h : l.Pairwise (fun n m => strLt n m = true)) : l.Nodup := by
  unfold List.Nodup
  exact h.imp (fun hlt e => by subst e; rw [strLt_irrefl] at hlt; cases hlt)

end Py
