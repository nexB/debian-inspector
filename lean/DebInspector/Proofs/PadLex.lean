/-
Padded lexicographic comparison over a total preorder is a total preorder.
Used twice for Debian version comparison: characters of a non-digit run padded with "end of run",
and (non-digit run, number) tokens padded with ([], 0).
At the end: two keys that both ascend along a list order its elements alike (for the tie of the two rank tables).
-/
namespace PadLex

/-- lexicographic comparison, the shorter list continued with `d` -/
def cmpPad {α} (cmp : α → α → Ordering) (d : α) : List α → List α → Ordering
  | [], [] => .eq
  | a :: as, [] => (cmp a d).then (cmpPad cmp d as [])
  | [], b :: bs => (cmp d b).then (cmpPad cmp d [] bs)
  | a :: as, b :: bs => (cmp a b).then (cmpPad cmp d as bs)

/-- a three-way comparison that is a total preorder -/
structure IsPre {α} (cmp : α → α → Ordering) : Prop where
  refl : ∀ a, cmp a a = .eq
  swap : ∀ a b, cmp b a = (cmp a b).swap
  trans_lt : ∀ a b c, cmp a b = .lt → cmp b c = .lt → cmp a c = .lt
  eq_left : ∀ a b c, cmp a b = .eq → cmp a c = cmp b c

theorem IsPre.eq_right {α} {cmp : α → α → Ordering} (h : IsPre cmp) (a b c : α)
    (hbc : cmp b c = .eq) : cmp a b = cmp a c := by
  rw [h.swap b a, h.swap c a, h.eq_left b c a hbc]

theorem IsPre.eq_symm {α} {cmp : α → α → Ordering} (h : IsPre cmp) (a b : α)
    (hab : cmp a b = .eq) : cmp b a = .eq := by rw [h.swap a b, hab]; rfl

theorem IsPre.eq_trans {α} {cmp : α → α → Ordering} (h : IsPre cmp) (a b c : α)
    (hab : cmp a b = .eq) (hbc : cmp b c = .eq) : cmp a c = .eq := by
  rw [h.eq_left a b c hab, hbc]

theorem IsPre.gt_iff_lt {α} {cmp : α → α → Ordering} (h : IsPre cmp) (a b : α) :
    cmp a b = .gt ↔ cmp b a = .lt := by
  rw [h.swap a b]; cases cmp a b <;> decide

theorem IsPre.lt_of_lt_of_le {α} {cmp : α → α → Ordering} (h : IsPre cmp) (a b c : α)
    (hab : cmp a b = .lt) (hbc : cmp b c ≠ .gt) : cmp a c = .lt := by
  cases h2 : cmp b c with
  | gt => exact absurd h2 hbc
  | eq => rw [← h.eq_right a b c h2]; exact hab
  | lt => exact h.trans_lt a b c hab h2

theorem IsPre.lt_of_le_of_lt {α} {cmp : α → α → Ordering} (h : IsPre cmp) (a b c : α)
    (hab : cmp a b ≠ .gt) (hbc : cmp b c = .lt) : cmp a c = .lt := by
  cases h1 : cmp a b with
  | gt => exact absurd h1 hab
  | eq => rw [h.eq_left a b c h1]; exact hbc
  | lt => exact h.trans_lt a b c h1 hbc

theorem IsPre.trans_le {α} {cmp : α → α → Ordering} (h : IsPre cmp) (a b c : α)
    (hab : cmp a b ≠ .gt) (hbc : cmp b c ≠ .gt) : cmp a c ≠ .gt := by
  cases h2 : cmp b c with
  | gt => exact absurd h2 hbc
  | eq => rw [← h.eq_right a b c h2]; exact hab
  | lt => rw [h.lt_of_le_of_lt a b c hab h2]; decide

theorem IsPre.comap {α β} {c : β → β → Ordering} (h : IsPre c) (f : α → β) :
    IsPre (fun a b => c (f a) (f b)) :=
  ⟨fun _ => h.refl _, fun _ _ => h.swap _ _, fun _ _ _ => h.trans_lt _ _ _, fun _ _ _ => h.eq_left _ _ _⟩

theorem isPre_of_key {α} (f : α → Int) : IsPre (fun a b => compare (f a) (f b)) where
  refl _ := Int.compare_eq_eq.mpr rfl
  swap a b := (Int.compare_swap (f a) (f b)).symm
  trans_lt _ _ _ h1 h2 :=
    Int.compare_eq_lt.mpr (Int.lt_trans (Int.compare_eq_lt.mp h1) (Int.compare_eq_lt.mp h2))
  eq_left _ _ c h := congrArg (compare · (f c)) (Int.compare_eq_eq.mp h)

/-- lexicographic product of two total preorders -/
def cmpProd {α β} (c1 : α → α → Ordering) (c2 : β → β → Ordering) (x y : α × β) : Ordering :=
  (c1 x.1 y.1).then (c2 x.2 y.2)

theorem cmpProd_pre {α β} {c1 : α → α → Ordering} {c2 : β → β → Ordering} (h1 : IsPre c1) (h2 : IsPre c2) :
    IsPre (cmpProd c1 c2) where
  refl a := by rw [cmpProd, h1.refl, h2.refl]; rfl
  swap a b := by rw [cmpProd, cmpProd, h1.swap a.1 b.1, h2.swap a.2 b.2, Ordering.swap_then]
  trans_lt a b c hab hbc := by
    rw [cmpProd, Ordering.then_eq_lt] at hab hbc ⊢
    rcases hab with hab | ⟨hab, hab'⟩
    · refine .inl ?_
      rcases hbc with hbc | ⟨hbc, _⟩
      · exact h1.trans_lt _ _ _ hab hbc
      · rw [← h1.eq_right _ _ _ hbc]; exact hab
    · rw [h1.eq_left _ _ _ hab]
      rcases hbc with hbc | ⟨hbc, hbc'⟩
      · exact .inl hbc
      · exact .inr ⟨hbc, h2.trans_lt _ _ _ hab' hbc'⟩
  eq_left a b c hab := by
    rw [cmpProd, Ordering.then_eq_eq] at hab
    rw [cmpProd, cmpProd, h1.eq_left _ _ _ hab.1, h2.eq_left _ _ _ hab.2]

/-- `cmpPad` with explicit fuel: one unit of fuel is one `cmpProd` of head and tail, which is how `cmpPadS_pre` gets
`IsPre` by induction on the fuel -/
def cmpPadS {α} (cmp : α → α → Ordering) (d : α) (x y : List α) (n : Nat) : Ordering :=
  match n with
  | 0 => .eq
  | n+1 => (cmp (x.headD d) (y.headD d)).then (cmpPadS cmp d x.tail y.tail n)

theorem cmpPad_headD_tail {α} (cmp : α → α → Ordering) (d : α) (hr : cmp d d = .eq) (x y : List α) :
    cmpPad cmp d x y = (cmp (x.headD d) (y.headD d)).then (cmpPad cmp d x.tail y.tail) := by
  cases x <;> cases y <;> simp [cmpPad, hr]

theorem cmpPad_eq_S {α} (cmp : α → α → Ordering) (d : α) (hr : cmp d d = .eq) (x y : List α) (n : Nat)
    (hx : x.length ≤ n) (hy : y.length ≤ n) : cmpPad cmp d x y = cmpPadS cmp d x y n := by
  induction n generalizing x y with
  | zero =>
    obtain rfl := List.eq_nil_of_length_eq_zero (Nat.le_zero.mp hx)
    obtain rfl := List.eq_nil_of_length_eq_zero (Nat.le_zero.mp hy)
    simp only [cmpPad, cmpPadS]
  | succ n ih =>
    rw [cmpPad_headD_tail cmp d hr, cmpPadS,
      ih x.tail y.tail (by rw [List.length_tail]; omega) (by rw [List.length_tail]; omega)]

theorem cmpPadS_pre {α} {cmp : α → α → Ordering} (h : IsPre cmp) (d : α) (n : Nat) :
    IsPre (fun x y => cmpPadS cmp d x y n) := by
  induction n with
  | zero => exact ⟨fun _ => rfl, fun _ _ => rfl, fun _ _ _ h => (nomatch h), fun _ _ _ _ => rfl⟩
  | succ n ih => exact (cmpProd_pre h ih).comap fun x : List α => (x.headD d, x.tail)

theorem cmpPad_pre {α} {cmp : α → α → Ordering} (h : IsPre cmp) (d : α) : IsPre (cmpPad cmp d) := by
  have S := cmpPadS_pre h d
  -- enough fuel for all the comparisons among three lists at once
  have key (a b c : List α) : ∃ n,
      cmpPad cmp d a b = cmpPadS cmp d a b n ∧ cmpPad cmp d b a = cmpPadS cmp d b a n ∧
      cmpPad cmp d b c = cmpPadS cmp d b c n ∧ cmpPad cmp d a c = cmpPadS cmp d a c n :=
    ⟨a.length + b.length + c.length, by
      refine ⟨?_, ?_, ?_, ?_⟩ <;> apply cmpPad_eq_S cmp d (h.refl d) <;> omega⟩
  refine ⟨fun a => ?_, fun a b => ?_, fun a b c => ?_, fun a b c => ?_⟩
  · obtain ⟨n, e, -⟩ := key a a a
    rw [e]; exact (S n).refl a
  · obtain ⟨n, e1, e2, -⟩ := key a b b
    rw [e1, e2]; exact (S n).swap a b
  · obtain ⟨n, e1, -, e2, e3⟩ := key a b c
    rw [e1, e2, e3]; exact (S n).trans_lt a b c
  · obtain ⟨n, e1, -, e2, e3⟩ := key a b c
    rw [e1, e2, e3]; exact (S n).eq_left a b c

theorem cmpPad_congr {α} (c1 c2 : α → α → Ordering) (d : α) (P : α → Prop) (hd : P d)
    (h : ∀ a b, P a → P b → c1 a b = c2 a b) (x y : List α)
    (hx : ∀ a ∈ x, P a) (hy : ∀ a ∈ y, P a) : cmpPad c1 d x y = cmpPad c2 d x y := by
  induction x generalizing y with
  | nil =>
    induction y with
    | nil => simp only [cmpPad]
    | cons b bs ih =>
      rw [List.forall_mem_cons] at hy
      simp only [cmpPad, h d b hd hy.1, ih hy.2]
  | cons a as ih =>
    rw [List.forall_mem_cons] at hx
    cases y with
    | nil => simp only [cmpPad, h a d hx.1 hd, ih [] hx.2 hy]
    | cons b bs =>
      rw [List.forall_mem_cons] at hy
      simp only [cmpPad, h a b hx.1 hy.1, ih bs hx.2 hy.2]

theorem cmpPad_pad_left {α} (c : α → α → Ordering) (d : α) (hr : c d d = .eq) (y : List α) :
    cmpPad c d [d] y = cmpPad c d [] y := by
  cases y <;> simp [cmpPad, hr]

theorem cmpPad_pad_right {α} (c : α → α → Ordering) (d : α) (hr : c d d = .eq) (x : List α) :
    cmpPad c d x [d] = cmpPad c d x [] := by
  cases x <;> simp [cmpPad, hr]

/-! ### ascending keys -/

/-- `f` increases strictly from each element of `l` to the next -/
def ascends {α} (f : α → Int) : List α → Bool
  | a :: b :: l => decide (f a < f b) && ascends f (b :: l)
  | _ => true

theorem ascends_pairwise {α} (f : α → Int) : ∀ l, ascends f l = true → l.Pairwise (fun a b => f a < f b)
  | [], _ => .nil
  | [_], _ => List.pairwise_singleton _ _
  | a :: b :: l, h => by
    rw [ascends, Bool.and_eq_true, decide_eq_true_eq] at h
    have ih := ascends_pairwise f (b :: l) h.2
    refine List.pairwise_cons.mpr ⟨fun c hc => ?_, ih⟩
    rcases List.mem_cons.mp hc with rfl | hc
    · exact h.1
    · exact Int.lt_trans h.1 (List.rel_of_pairwise_cons ih hc)

theorem compare_eq_of_ascends {α} (f g : α → Int) (l : List α) (hf : ascends f l = true) (hg : ascends g l = true) :
    ∀ a ∈ l, ∀ b ∈ l, compare (f a) (f b) = compare (g a) (g b) := by
  suffices h : ∀ l : List α, l.Pairwise (fun a b => f a < f b) → l.Pairwise (fun a b => g a < g b) →
      ∀ a ∈ l, ∀ b ∈ l, compare (f a) (f b) = compare (g a) (g b) from
    h l (ascends_pairwise f l hf) (ascends_pairwise g l hg)
  intro l hf hg
  induction l with
  | nil => exact fun _ h => nomatch h
  | cons x xs ih =>
    rw [List.pairwise_cons] at hf hg
    intro a ha b hb
    rcases List.mem_cons.mp ha with rfl | ha' <;> rcases List.mem_cons.mp hb with rfl | hb'
    · rw [Int.compare_eq_eq.mpr rfl, Int.compare_eq_eq.mpr rfl]
    · rw [Int.compare_eq_lt.mpr (hf.1 b hb'), Int.compare_eq_lt.mpr (hg.1 b hb')]
    · rw [Int.compare_eq_gt.mpr (hf.1 a ha'), Int.compare_eq_gt.mpr (hg.1 a ha')]
    · exact ih hf.2 hg.2 a ha' b hb'

end PadLex
