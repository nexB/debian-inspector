/-
Paragraph construction (`Model.Copyright.fromFields`). Totality: the duplicate-renaming loop always finds an unused
name, so the clash assertion and the index errors are unreachable (`freshName_some`, `addField_ok`, `fromFields_ok`).
Then what it computes: one step of the loop is `store` on an accumulator (`addField_eq`, `addField_store`), `AccInv` is
kept by it, and the result is `mkPara` of the last accumulator (`fromFields_eq`, `fromFields_inv`).
-/
import DebInspector.Model.Copyright
import DebInspector.Proofs.Assoc

namespace Proofs.CopyrightTotal
open Py Model.Deb822 Model.Debcon Model.Copyright Proofs.Assoc

/-- `f'{base_name}_{k}'`, the name the loop tries at counter `k` -/
def cand (base : Str) (k : Nat) : Str := base ++ '_' :: natToStr k

theorem cand_inj (base : Str) {a b : Nat} (h : cand base a = cand base b) : a = b := by
  have hd : Nat.toDigits 10 a = Nat.toDigits 10 b := List.tail_eq_of_cons_eq (List.append_cancel_left h)
  rw [← Nat.ofDigitChars_ten_toDigits (n := a), hd, Nat.ofDigitChars_ten_toDigits]

theorem cand_ne_base (base : Str) (k : Nat) : cand base k ≠ base := by
  intro h
  have := congrArg List.length h
  simp [cand] at this

/-- the names the loop may still try -/
def Future (base name : Str) (suffix : Nat) (x : Str) : Prop := x = name ∨ ∃ k, suffix ≤ k ∧ x = cand base k

theorem freshName_congr (base : Str) (fuel : Nat) (name : Str) (suffix : Nat) (seen seen' : List Str)
    (h : ∀ x, Future base name suffix x → (x ∈ seen ↔ x ∈ seen')) :
    freshName seen base fuel name suffix = freshName seen' base fuel name suffix := by
  induction fuel generalizing name suffix with
  | zero => rfl
  | succ fuel ih =>
    have hn := h name (Or.inl rfl)
    unfold freshName
    by_cases hm : name ∈ seen
    · have hm' : name ∈ seen' := hn.mp hm
      simp only [List.contains_iff_mem, hm, hm', if_true]
      apply ih
      intro x hx
      apply h
      rcases hx with rfl | ⟨k, hk, rfl⟩
      · exact Or.inr ⟨suffix, Nat.le_refl _, rfl⟩
      · exact Or.inr ⟨k, by omega, rfl⟩
    · have hm' : name ∉ seen' := fun m => hm (hn.mpr m)
      simp [hm, hm']

/-- the name under test is the base name or a candidate of an earlier counter, so it differs from every later candidate
(`future_ne_name`) -/
def NameInv (base name : Str) (suffix : Nat) : Prop := name = base ∨ ∃ j, j < suffix ∧ name = cand base j

theorem future_ne_name {base name : Str} {suffix k : Nat} (hi : NameInv base name suffix) (hk : suffix ≤ k) :
    cand base k ≠ name := by
  rcases hi with rfl | ⟨j, hj, rfl⟩
  · exact cand_ne_base _ k
  · intro e; have := cand_inj base e; omega

theorem freshName_future (base : Str) : ∀ (fuel : Nat) (nm : Str) (sf : Nat) (sn : List Str) (r : Str × Nat),
    freshName sn base fuel nm sf = some r → Future base nm sf r.1 := by
  intro fuel
  induction fuel with
  | zero => intro nm sf sn r h; simp [freshName] at h
  | succ fuel ihf =>
    intro nm sf sn r h
    unfold freshName at h
    split at h
    · rcases ihf _ _ _ _ h with e | ⟨k, hk, e⟩
      · exact Or.inr ⟨sf, Nat.le_refl _, e⟩
      · exact Or.inr ⟨k, by omega, e⟩
    · simp only [Option.some.injEq] at h; subst h; exact Or.inl rfl

/-- the renaming loop ends with an unused name within `|seen| + 1` iterations -/
theorem freshName_some (base : Str) (seen : List Str) (fuel : Nat) (name : Str) (suffix : Nat)
    (hf : seen.length < fuel) (hi : NameInv base name suffix) :
    ∃ n s, freshName seen base fuel name suffix = some (n, s) ∧ n ∉ seen := by
  induction fuel generalizing seen name suffix with
  | zero => omega
  | succ fuel ih =>
    unfold freshName
    by_cases hm : name ∈ seen
    · simp only [List.contains_iff_mem, hm, if_true]
      -- no later iteration tries `name` again, so the rest of the loop behaves as if `name` were removed from `seen`
      have hne : ∀ x, Future base (cand base suffix) (suffix + 1) x → x ≠ name := by
        rintro x (rfl | ⟨k, hk, rfl⟩)
        · exact future_ne_name hi (Nat.le_refl _)
        · exact future_ne_name hi (by omega)
      obtain ⟨n, s, hr, hn⟩ := ih (seen.erase name) (cand base suffix) (suffix + 1)
        (by have := List.length_pos_of_mem hm; rw [List.length_erase_of_mem hm]; omega)
        (Or.inr ⟨suffix, Nat.lt_succ_self _, rfl⟩)
      refine ⟨n, s, ?_, fun hns => hn ((List.mem_erase_of_ne (hne n (freshName_future base _ _ _ _ _ hr))).mpr hns)⟩
      rw [← hr]
      exact freshName_congr base fuel _ _ _ _ fun x hx => (List.mem_erase_of_ne (hne x hx)).symm
    · exact ⟨name, suffix, by simp [hm], hm⟩

/-! ### the loop of `from_fields` -/

/-- every name stored so far has been recorded in `seen_names` -/
def KeysSeen (a : Acc) : Prop :=
  (∀ k ∈ a.known.map (·.1), k ∈ a.seen) ∧ (∀ k ∈ a.extra.map (·.1), k ∈ a.seen)

/-- the accumulator after a value has been recorded under the unused `name`: in `known` if the class declares the name,
else in `extra` -/
def store (knownNames : List Str) (a : Acc) (name : Str) (suffix : Nat) (rng : Nat × Nat) (v : Str) : Acc where
  known := if knownNames.contains name then a.known ++ [(name, v)] else a.known
  extra := if knownNames.contains name then a.extra else a.extra ++ [(name, .s v)]
  lines := lset a.lines name rng
  seen := a.seen ++ [name]
  suffix := suffix

theorem store_known {kn : List Str} {name : Str} (h : kn.contains name = true) (a : Acc) (suffix : Nat) (rng : Nat × Nat)
    (v : Str) : store kn a name suffix rng v =
      { a with known := a.known ++ [(name, v)], lines := lset a.lines name rng, seen := a.seen ++ [name], suffix := suffix } := by
  simp only [store, h, if_true]

theorem store_extra {kn : List Str} {name : Str} (h : kn.contains name = false) (a : Acc) (suffix : Nat) (rng : Nat × Nat)
    (v : Str) : store kn a name suffix rng v =
      { a with extra := a.extra ++ [(name, .s v)], lines := lset a.lines name rng, seen := a.seen ++ [name], suffix := suffix } := by
  simp only [store, h, Bool.false_eq_true, if_false]

theorem store_keysSeen {a : Acc} (h : KeysSeen a) (kn : List Str) (name : Str) (suffix : Nat) (rng : Nat × Nat) (v : Str) :
    KeysSeen (store kn a name suffix rng v) := by
  cases hkn : kn.contains name with
  | true =>
    rw [store_known hkn]
    exact ⟨keys_snoc a.known name v ▸ snoc_subset_snoc name h.1, fun k hk => List.mem_append_left _ (h.2 k hk)⟩
  | false =>
    rw [store_extra hkn]
    exact ⟨fun k hk => List.mem_append_left _ (h.1 k hk), keys_snoc a.extra name (XV.s v) ▸ snoc_subset_snoc name h.2⟩

theorem addField_eq (kn : List Str) (a : Acc) (f : Fld) :
    addField kn a f =
      if (fieldText f).isEmpty then .ok a else
      match freshName a.seen (replaceChar '-' '_' f.name) (a.seen.length + 1) (replaceChar '-' '_' f.name) a.suffix with
      | none => .error .outOfModel
      | some (name, suffix) =>
        if (kn.contains name && (a.known.lookup name).isSome) || (!kn.contains name && (a.extra.lookup name).isSome) then
          .error .assertionError
        else
          match f.lines.head?, f.lines.getLast? with
          | some first, some last =>
            .ok (store kn a name suffix (first.num + (f.lines.takeWhile fun l => isBlank l.val).length, last.num)
              (lstrip (fieldText f)))
          | _, _ => .error .indexError := by
  unfold addField
  dsimp only
  cases (fieldText f).isEmpty with
  | true => rfl
  | false =>
    cases freshName a.seen (replaceChar '-' '_' f.name) (a.seen.length + 1) (replaceChar '-' '_' f.name) a.suffix with
    | none => rfl
    | some r =>
      obtain ⟨name, suffix⟩ := r
      dsimp only
      cases (kn.contains name && (a.known.lookup name).isSome) || (!kn.contains name && (a.extra.lookup name).isSome) with
      | true => rfl
      | false =>
        cases f.lines.head? with
        | none => rfl
        | some first =>
          cases f.lines.getLast? with
          | none => rfl
          | some last => cases hk : kn.contains name <;> simp only [store, hk] <;> rfl

theorem addField_empty (kn : List Str) (a : Acc) (f : Fld) (h : (fieldText f).isEmpty = true) : addField kn a f = .ok a := by
  rw [addField_eq, h, if_pos rfl]

/-- the `freshName` equation is in the statement so that two runs that have seen the same names can be shown to choose alike -/
theorem addField_store (kn : List Str) (a : Acc) (f : Fld) (hs : KeysSeen a) (hv : (fieldText f).isEmpty = false) :
    ∃ name suffix first last,
      freshName a.seen (replaceChar '-' '_' f.name) (a.seen.length + 1) (replaceChar '-' '_' f.name) a.suffix
        = some (name, suffix) ∧
      name ∉ a.seen ∧ f.lines.head? = some first ∧ f.lines.getLast? = some last ∧
      addField kn a f = .ok (store kn a name suffix
        (first.num + (f.lines.takeWhile fun l => isBlank l.val).length, last.num) (lstrip (fieldText f))) := by
  obtain ⟨name, suffix, hfresh, hnotin⟩ :=
    freshName_some (replaceChar '-' '_' f.name) a.seen (a.seen.length + 1) (replaceChar '-' '_' f.name) a.suffix
      (Nat.lt_succ_self _) (Or.inl rfl)
  have hk : (a.known.lookup name).isSome = false :=
    congrArg Option.isSome (lookup_eq_none _ _ fun h => hnotin (hs.1 name h))
  have he : (a.extra.lookup name).isSome = false :=
    congrArg Option.isSome (lookup_eq_none _ _ fun h => hnotin (hs.2 name h))
  cases hl : f.lines with
  | nil => rw [fieldText, hl] at hv; cases hv
  | cons l ls =>
    refine ⟨name, suffix, l, (l :: ls).getLast (List.cons_ne_nil _ _), hfresh, hnotin, rfl, List.getLast?_eq_some_getLast _, ?_⟩
    rw [addField_eq, hv, if_neg Bool.false_ne_true, hfresh]
    simp only [hk, he, Bool.and_false, Bool.or_self, Bool.false_eq_true, if_false, hl, List.head?_cons,
      List.getLast?_eq_some_getLast (List.cons_ne_nil l ls)]

theorem addField_ok (knownNames : List Str) (a : Acc) (f : Fld) (hinv : KeysSeen a) :
    ∃ a', addField knownNames a f = .ok a' ∧ KeysSeen a' := by
  cases hv : (fieldText f).isEmpty with
  | true => exact ⟨a, addField_empty _ a f hv, hinv⟩
  | false =>
    obtain ⟨name, suffix, _, _, _, _, _, _, h⟩ := addField_store knownNames a f hinv hv
    exact ⟨_, h, store_keysSeen hinv ..⟩

/-- the keys of the accumulator's maps: those of `known`, `extra` (`seen`) and `lines` (`lseen`) are in `seen_names`;
those of `known` (`knd`) and of `extra` (`xnd`) are distinct; `known` holds declared names only (`kin`), `extra` none (`xout`) -/
structure AccInv (kn : List Str) (a : Acc) : Prop where
  seen : KeysSeen a
  lseen : ∀ k ∈ a.lines.map (·.1), k ∈ a.seen
  knd : (a.known.map (·.1)).Nodup
  xnd : (a.extra.map (·.1)).Nodup
  kin : ∀ k ∈ a.known.map (·.1), k ∈ kn
  xout : ∀ k ∈ a.extra.map (·.1), k ∉ kn

theorem AccInv.init (kn : List Str) : AccInv kn ⟨[], [], [], [], 1⟩ :=
  { seen := ⟨nofun, nofun⟩, lseen := nofun, knd := List.nodup_nil, xnd := List.nodup_nil, kin := nofun, xout := nofun }

theorem AccInv.lines_store {kn : List Str} {a : Acc} (h : AccInv kn a) {name : Str} (hn : name ∉ a.seen) (rng : Nat × Nat) :
    lset a.lines name rng = a.lines ++ [(name, rng)] :=
  lset_absent _ _ _ fun hm => hn (h.lseen name hm)

theorem AccInv.store {kn : List Str} {a : Acc} (h : AccInv kn a) {name : Str} (hn : name ∉ a.seen) (suffix : Nat)
    (rng : Nat × Nat) (v : Str) : AccInv kn (store kn a name suffix rng v) := by
  have hl : ∀ k ∈ (lset a.lines name rng).map (·.1), k ∈ a.seen ++ [name] := by
    rw [h.lines_store hn, keys_snoc]; exact snoc_subset_snoc name h.lseen
  cases hkn : kn.contains name with
  | true =>
    refine { seen := store_keysSeen h.seen .., lseen := hl, knd := ?knd, xnd := ?xnd, kin := ?kin, xout := ?xout } <;>
      simp only [CopyrightTotal.store, hkn, if_true, keys_snoc]
    case knd => exact nodup_snoc h.knd fun hm => hn (h.seen.1 name hm)
    case xnd => exact h.xnd
    case kin => exact forall_mem_snoc.mpr ⟨h.kin, List.contains_iff_mem.mp hkn⟩
    case xout => exact h.xout
  | false =>
    refine { seen := store_keysSeen h.seen .., lseen := hl, knd := ?knd, xnd := ?xnd, kin := ?kin, xout := ?xout } <;>
      simp only [CopyrightTotal.store, hkn, Bool.false_eq_true, if_false, keys_snoc]
    case knd => exact h.knd
    case xnd => exact nodup_snoc h.xnd fun hm => hn (h.seen.2 name hm)
    case kin => exact h.kin
    case xout => exact forall_mem_snoc.mpr ⟨h.xout, fun hm => Bool.false_ne_true (hkn.symm.trans (List.contains_iff_mem.mpr hm))⟩

theorem addFields_cons_ok {kn : List Str} {a a' : Acc} {f : Fld} (h : addField kn a f = .ok a') (fs : List Fld) :
    addFields kn a (f :: fs) = addFields kn a' fs := by
  simp only [addFields, h]

theorem addFields_inv (kn : List Str) (P : Acc → Prop)
    (step : ∀ a f a', KeysSeen a → P a → addField kn a f = .ok a' → P a')
    (fs : List Fld) (a : Acc) (hinv : KeysSeen a) (hp : P a) :
    ∃ a', addFields kn a fs = .ok a' ∧ KeysSeen a' ∧ P a' := by
  induction fs generalizing a with
  | nil => exact ⟨a, rfl, hinv, hp⟩
  | cons f fs ih =>
    obtain ⟨a1, h1, hi1⟩ := addField_ok kn a f hinv
    rw [addFields_cons_ok h1]
    exact ih a1 hi1 (step a f a1 hinv hp h1)

/-- `CatchAllParagraph` declares the two internal attributes only (`Generated.catchallFields`) -/
theorem typedFields_catchall : typedFields .catchall = [] := by decide +kernel

/-- the paragraph `from_fields` makes of its accumulator -/
def mkPara (K : Kind) (a : Acc) : Para :=
  ⟨K, (typedFields K).map fun nc => (nc.1, fromValue nc.2 (a.known.lookup nc.1)), a.extra, a.lines⟩

/-- a catch-all paragraph has no typed fields, so the known names are the names of the typed fields for every class -/
theorem fromFields_eq (k : Kind) (fields : List Fld) :
    fromFields k fields = (addFields ((typedFields k).map (·.1)) ⟨[], [], [], [], 1⟩ fields).map (mkPara k) := by
  have hkn : (if k = .catchall then [] else (typedFields k).map (·.1)) = (typedFields k).map (·.1) := by
    split
    · next h => rw [h, typedFields_catchall]; rfl
    · rfl
  unfold fromFields
  simp only [hkn]
  cases addFields ((typedFields k).map (·.1)) ⟨[], [], [], [], 1⟩ fields <;> rfl

theorem fromFields_inv (k : Kind) (P : Acc → Prop)
    (step : ∀ a f a', KeysSeen a → P a → addField ((typedFields k).map (·.1)) a f = .ok a' → P a')
    (h0 : P ⟨[], [], [], [], 1⟩) (fields : List Fld) : ∃ a, P a ∧ fromFields k fields = .ok (mkPara k a) := by
  obtain ⟨a, h, _, hp⟩ := addFields_inv _ P step fields ⟨[], [], [], [], 1⟩ ⟨nofun, nofun⟩ h0
  exact ⟨a, hp, by rw [fromFields_eq, h]; rfl⟩

/-- whatever the names: duplicates, numerically suffixed names, names of internal attributes -/
theorem fromFields_ok (k : Kind) (fields : List Fld) : ∃ p, fromFields k fields = .ok p :=
  have ⟨_, _, h⟩ := fromFields_inv k (fun _ => True) (fun _ _ _ _ _ _ => trivial) trivial fields
  ⟨_, h⟩

end Proofs.CopyrightTotal
