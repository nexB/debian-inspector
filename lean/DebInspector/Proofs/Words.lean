/-
Words of texts: the white-space tokens of a string against those of its lines, of its trimmed form, and of the joins the
renderers use; the multiset comparisons of `Spec/Words.lean` as permutations.
-/
import DebInspector.Proofs.SplitJoin
import DebInspector.Proofs.Splitlines
import DebInspector.Spec.Words

namespace Proofs.Words
open Py Spec.Words Proofs.Splitlines Model.Debcon

theorem splitWsAux_space (a b cur : Str) (c : Char) (hc : isSpace c = true) :
    splitWsAux (a ++ c :: b) cur = splitWsAux a cur ++ splitWsAux b [] := by
  induction a generalizing cur with
  | nil =>
    simp only [List.nil_append, splitWsAux, hc, if_true]
    split <;> simp
  | cons x xs ih =>
    simp only [List.cons_append, splitWsAux]
    split
    · split
      · exact ih []
      · simp [ih []]
    · exact ih (x :: cur)

theorem splitWs_space (a b : Str) (c : Char) (hc : isSpace c = true) : splitWs (a ++ c :: b) = splitWs a ++ splitWs b :=
  splitWsAux_space a b [] c hc

theorem splitWs_nil : splitWs [] = [] := rfl

theorem splitWs_cons_space (c : Char) (s : Str) (hc : isSpace c = true) : splitWs (c :: s) = splitWs s := by
  have := splitWs_space [] s c hc
  simpa [splitWs_nil] using this

theorem splitWs_snoc_space (s : Str) (c : Char) (hc : isSpace c = true) : splitWs (s ++ [c]) = splitWs s := by
  have := splitWs_space s [] c hc
  simpa [splitWs_nil] using this

theorem splitWs_lpad (a m : Str) (ha : ∀ c ∈ a, isSpace c = true) : splitWs (a ++ m) = splitWs m := by
  induction a with
  | nil => rfl
  | cons c cs ih =>
    rw [List.cons_append, splitWs_cons_space c _ (ha c List.mem_cons_self)]
    exact ih fun x hx => ha x (List.mem_cons_of_mem _ hx)

theorem splitWs_all_space (w : Str) (h : ∀ c ∈ w, isSpace c = true) : splitWs w = [] :=
  List.append_nil w ▸ splitWs_lpad w [] h

theorem splitWs_rpad (m b : Str) (hb : ∀ c ∈ b, isSpace c = true) : splitWs (m ++ b) = splitWs m := by
  cases b with
  | nil => simp
  | cons c cs =>
    rw [splitWs_space m cs c (hb c (by simp)), splitWs_all_space cs (fun x hx => hb x (by simp [hx]))]
    simp

theorem splitWs_lstrip (s : Str) : splitWs (lstrip s) = splitWs s := by
  obtain ⟨w, hw, e⟩ := lstrip_decomp s
  conv => rhs; rw [e]
  exact (splitWs_lpad w _ hw).symm

theorem splitWs_rstrip (s : Str) : splitWs (rstrip s) = splitWs s := by
  obtain ⟨w, hw, e⟩ := rstrip_decomp s
  conv => rhs; rw [e]
  exact (splitWs_rpad _ w hw).symm

theorem splitWs_strip (s : Str) : splitWs (strip s) = splitWs s := by
  unfold strip; rw [splitWs_rstrip, splitWs_lstrip]

theorem words_strip (s : Str) : words (strip s) = words s := by unfold words; rw [splitWs_strip]
theorem words_lstrip (s : Str) : words (lstrip s) = words s := by unfold words; rw [splitWs_lstrip]
theorem words_rstrip (s : Str) : words (rstrip s) = words s := by unfold words; rw [splitWs_rstrip]

theorem words_space (a b : Str) (c : Char) (hc : isSpace c = true) : words (a ++ c :: b) = words a ++ words b := by
  unfold words; rw [splitWs_space a b c hc, List.filter_append]

theorem words_nil : words [] = [] := rfl

theorem words_cons_space (c : Char) (s : Str) (hc : isSpace c = true) : words (c :: s) = words s :=
  words_space [] s c hc

theorem words_lpad (a m : Str) (ha : ∀ c ∈ a, isSpace c = true) : words (a ++ m) = words m := by
  unfold words; rw [splitWs_lpad a m ha]

theorem words_blank (l : Str) (h : isBlank l = true) : words l = [] := by
  unfold words
  rw [splitWs_all_space l (List.all_eq_true.mp h)]
  rfl

theorem words_ite {c : Prop} [Decidable c] {a b t : Str} (ha : words a = words t) (hb : words b = words t) :
    words (if c then a else b) = words t := by
  split <;> assumption

theorem flatMap_congr {α β} {l : List α} {f g : α → List β} (h : ∀ a ∈ l, f a = g a) : l.flatMap f = l.flatMap g := by
  induction l with
  | nil => rfl
  | cons a as ih =>
    rw [List.flatMap_cons, List.flatMap_cons, h a List.mem_cons_self, ih fun x hx => h x (List.mem_cons_of_mem _ hx)]

theorem flatMap_perm {α β} {l : List α} {f g : α → List β} (h : ∀ a ∈ l, (f a).Perm (g a)) :
    (l.flatMap f).Perm (l.flatMap g) := by
  induction l with
  | nil => exact List.Perm.refl _
  | cons a as ih =>
    exact (h a List.mem_cons_self).append (ih fun x hx => h x (List.mem_cons_of_mem _ hx))

theorem flatMap_words_eq (ls : List Str) : ls.flatMap words = (ls.flatMap splitWs).filter (· ≠ ['.']) := by
  induction ls with
  | nil => rfl
  | cons l ls ih => simp only [List.flatMap_cons, List.filter_append, ih]; rfl

theorem words_join_sep (sep : Str) (hsep : sep ≠ []) (hs : ∀ c ∈ sep, isSpace c = true) (ls : List Str) :
    words (join sep ls) = ls.flatMap words := by
  induction ls with
  | nil => rfl
  | cons l ls ih =>
    cases ls with
    | nil => simp [join]
    | cons m ms =>
      cases sep with
      | nil => exact absurd rfl hsep
      | cons c cs =>
        have e : join (c :: cs) (l :: m :: ms) = l ++ c :: (cs ++ join (c :: cs) (m :: ms)) := by
          simp only [join, List.append_assoc, List.cons_append]
        rw [e, words_space l _ c (hs c List.mem_cons_self), words_lpad cs _ fun x hx => hs x (List.mem_cons_of_mem _ hx), ih]
        rfl

theorem splitWs_joinNl (ls : List Str) : splitWs (Model.Debcon.joinNl ls) = ls.flatMap splitWs := by
  induction ls with
  | nil => rfl
  | cons l ls ih =>
    cases ls with
    | nil => simp [Model.Debcon.joinNl]
    | cons m r =>
      have hnl : isSpace '\n' = true := by decide
      have e : Model.Debcon.joinNl (l :: m :: r) = l ++ '\n' :: Model.Debcon.joinNl (m :: r) := rfl
      rw [e, splitWs_space l _ '\n' hnl, ih]
      rfl

theorem words_joinNl (ls : List Str) : words (joinNl ls) = ls.flatMap words :=
  eq_join (f := joinNl) (sep := ['\n']) rfl (fun _ => rfl) (fun _ _ _ => rfl) ls ▸
    words_join_sep ['\n'] (by simp) (by decide) ls

theorem words_joinNlSp (ls : List Str) : words (joinNlSp ls) = ls.flatMap words :=
  eq_join (f := joinNlSp) (sep := ['\n', ' ']) rfl (fun _ => rfl) (fun _ _ _ => rfl) ls ▸
    words_join_sep ['\n', ' '] (by simp) (by decide) ls

/-- `cr` says that the last character was a `\r`, whose line is closed already: a `\n` right behind it is swallowed -/
theorem splitWs_splitlinesAux (t cur : Str) (cr : Bool) (hcr : cr = true → cur = []) :
    (splitlinesAux t cur cr).flatMap splitWs = splitWs (cur.reverse ++ t) := by
  induction t generalizing cur cr with
  | nil =>
    rw [splitlinesAux, List.append_nil]
    by_cases h : cur.isEmpty = true
    · rw [if_pos h, List.isEmpty_iff.mp h]; rfl
    · rw [if_neg h, List.flatMap_singleton]
  | cons c rest ih =>
    -- a boundary is white space: the words before it and after it
    rw [splitlinesAux]
    by_cases h1 : c = '\n' ∧ cr = true
    · cases hcr h1.2
      rw [if_pos h1, ih [] false nofun, h1.1]
      exact (splitWs_cons_space '\n' rest (by decide)).symm
    rw [if_neg h1]
    by_cases h2 : c = '\r'
    · rw [if_pos h2, List.flatMap_cons, ih [] true fun _ => rfl, h2]
      exact (splitWs_space cur.reverse rest '\r' (by decide)).symm
    rw [if_neg h2]
    cases h3 : isBoundary c with
    | true =>
      rw [if_pos rfl, List.flatMap_cons, ih [] false nofun]
      exact (splitWs_space cur.reverse rest c (isBoundary_isSpace h3)).symm
    | false => rw [if_neg Bool.false_ne_true, ih (c :: cur) false nofun, List.reverse_cons, List.append_assoc]; rfl

/-- the words of a text are the words of its lines (`str.splitlines` breaks only at white space) -/
theorem words_splitlines (v : Str) : (splitlines v).flatMap words = words v := by
  have := splitWs_splitlinesAux v [] false (by simp)
  simp only [List.reverse_nil, List.nil_append] at this
  rw [flatMap_words_eq, splitlines, this]
  rfl

/-! ### the multiset comparisons of the specification -/

theorem removeAll_nil_iff (a : List Str) : ∀ b, removeAll a b = some [] ↔ a.Perm b := by
  induction a with
  | nil =>
    intro b
    simp only [removeAll, Option.some.injEq]
    constructor
    · intro h; subst h; exact List.Perm.refl _
    · intro h; exact (List.nil_perm.mp h)
  | cons x xs ih =>
    intro b
    simp only [removeAll]
    by_cases hx : x ∈ b
    · simp only [List.contains_iff_mem, hx, if_true]
      rw [ih]
      constructor
      · intro h
        exact (List.Perm.cons x h).trans (List.perm_cons_erase hx).symm
      · intro h
        have := (h.trans (List.perm_cons_erase hx))
        exact (List.Perm.cons_inv this)
    · simp only [List.contains_iff_mem, hx, if_false]
      constructor
      · intro h; cases h
      · intro h; exact absurd (h.subset (by simp)) hx

theorem sameMultiset_iff_perm (a b : List Str) : sameMultiset a b = true ↔ a.Perm b := by
  unfold sameMultiset
  rw [← removeAll_nil_iff]
  simp

theorem sameMultiset_refl (a : List Str) : sameMultiset a a = true :=
  (sameMultiset_iff_perm a a).mpr (List.Perm.refl _)

theorem subMultiset_iff (a : List Str) : ∀ b, subMultiset a b = true ↔ ∃ c, (a ++ c).Perm b := by
  induction a with
  | nil =>
    intro b
    simp only [subMultiset, removeAll, Option.isSome_some, List.nil_append, true_iff]
    exact ⟨b, List.Perm.refl _⟩
  | cons x xs ih =>
    intro b
    simp only [subMultiset, removeAll]
    by_cases hx : x ∈ b
    · simp only [List.contains_iff_mem, hx, if_true]
      have := ih (b.erase x)
      simp only [subMultiset] at this
      rw [this]
      constructor
      · rintro ⟨c, hc⟩
        exact ⟨c, (List.Perm.cons x hc).trans (List.perm_cons_erase hx).symm⟩
      · rintro ⟨c, hc⟩
        exact ⟨c, List.Perm.cons_inv (hc.trans (List.perm_cons_erase hx))⟩
    · simp only [List.contains_iff_mem, hx, if_false, Option.isSome_none, Bool.false_eq_true, false_iff]
      rintro ⟨c, hc⟩
      exact hx (hc.subset (by simp))

theorem subMultiset_of_sublist (a b : List Str) (h : a.Sublist b) : subMultiset a b = true := by
  rw [subMultiset_iff]
  induction h with
  | slnil => exact ⟨[], List.Perm.refl _⟩
  | @cons a b y _ ih =>
    obtain ⟨c, hc⟩ := ih
    exact ⟨y :: c, (List.perm_middle).trans (List.Perm.cons y hc)⟩
  | @cons_cons a b y _ ih =>
    obtain ⟨c, hc⟩ := ih
    exact ⟨c, List.Perm.cons y hc⟩

theorem subMultiset_append (a a' b b' : List Str) (h : subMultiset a b = true) (h' : subMultiset a' b' = true) :
    subMultiset (a ++ a') (b ++ b') = true := by
  rw [subMultiset_iff] at *
  obtain ⟨c, hc⟩ := h
  obtain ⟨c', hc'⟩ := h'
  refine ⟨c ++ c', ?_⟩
  have : ((a ++ a') ++ (c ++ c')).Perm ((a ++ c) ++ (a' ++ c')) := by
    simp only [List.append_assoc]
    apply List.Perm.append_left
    rw [← List.append_assoc, ← List.append_assoc]
    exact List.Perm.append_right _ List.perm_append_comm
  exact this.trans (List.Perm.append hc hc')

theorem subMultiset_trans_sublist (a b b' : List Str) (h : subMultiset a b = true) (hs : b.Sublist b') :
    subMultiset a b' = true := by
  rw [subMultiset_iff] at *
  obtain ⟨c, hc⟩ := h
  have := (subMultiset_iff b b').mp (subMultiset_of_sublist b b' hs)
  obtain ⟨d, hd⟩ := this
  exact ⟨c ++ d, by rw [← List.append_assoc]; exact (List.Perm.append_right d hc).trans hd⟩

theorem subMultiset_refl (a : List Str) : subMultiset a a = true :=
  (subMultiset_iff a a).mpr ⟨[], by rw [List.append_nil]⟩

theorem subMultiset_flatMap {α} (l : List α) (f g : α → List Str) (h : ∀ x ∈ l, subMultiset (f x) (g x) = true) :
    subMultiset (l.flatMap f) (l.flatMap g) = true := by
  induction l with
  | nil => rfl
  | cons x xs ih =>
    exact subMultiset_append _ _ _ _ (h x List.mem_cons_self) (ih fun y hy => h y (List.mem_cons_of_mem _ hy))

end Proofs.Words
