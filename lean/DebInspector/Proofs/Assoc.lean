/-
The association lists of the copyright model: the update `Model.Copyright.lset` and `Model.Copyright.mapExcept`.
-/
import DebInspector.Model.Copyright
import DebInspector.Proofs.AssocList

namespace Proofs.Assoc
open Py Model.Copyright

universe u v w x

section lset
variable {α : Type u} {β : Type v}

theorem lset_absent (l : List (Str × α)) (k : Str) (v : α) (h : k ∉ l.map (·.1)) : lset l k v = l ++ [(k, v)] := by
  induction l with
  | nil => rfl
  | cons a as ih =>
    obtain ⟨a1, a2⟩ := a
    rw [List.map_cons, List.mem_cons, not_or] at h
    rw [lset, if_neg (Ne.symm h.1), ih h.2]; rfl

theorem lset_keys_eq (l : List (Str × α)) (k : Str) (v : α) :
    (lset l k v).map (·.1) = if k ∈ l.map (·.1) then l.map (·.1) else l.map (·.1) ++ [k] := by
  induction l with
  | nil => rfl
  | cons a as ih =>
    obtain ⟨a1, a2⟩ := a
    by_cases e : a1 = k
    · rw [lset, if_pos e, List.map_cons, if_pos (e ▸ List.mem_cons_self)]; rfl
    · rw [lset, if_neg e, List.map_cons, ih, List.map_cons]
      by_cases hk : k ∈ as.map (·.1)
      · rw [if_pos hk, if_pos (List.mem_cons_of_mem _ hk)]
      · rw [if_neg hk, if_neg fun h => (List.mem_cons.mp h).elim (Ne.symm e) hk]; rfl

theorem lset_keys (l : List (Str × α)) (l' : List (Str × β)) (k : Str) (v : α) (v' : β) (h : l.map (·.1) = l'.map (·.1)) :
    (lset l k v).map (·.1) = (lset l' k v').map (·.1) := by
  rw [lset_keys_eq, lset_keys_eq, h]

theorem lset_keys_mem (l : List (Str × α)) (k : Str) (v : α) : k ∈ (lset l k v).map (·.1) := by
  rw [lset_keys_eq]
  split
  · assumption
  · exact List.mem_append_right _ (List.mem_singleton_self k)

theorem lset_keys_mono (l : List (Str × α)) (k : Str) (v : α) (x : Str) (h : x ∈ l.map (·.1)) : x ∈ (lset l k v).map (·.1) := by
  rw [lset_keys_eq]
  split
  · exact h
  · exact List.mem_append_left _ h

theorem lset_mem (l : List (Str × α)) (k : Str) (v : α) : ∀ kv ∈ lset l k v, kv ∈ l ∨ kv.2 = v := by
  induction l with
  | nil => intro kv h; exact Or.inr (by rw [List.mem_singleton.mp h])
  | cons a rest ih =>
    intro kv h
    unfold lset at h
    split at h
    · rcases List.mem_cons.mp h with rfl | h
      · exact Or.inr rfl
      · exact Or.inl (List.mem_cons_of_mem _ h)
    · rcases List.mem_cons.mp h with rfl | h
      · exact Or.inl List.mem_cons_self
      · exact (ih kv h).imp_left (List.mem_cons_of_mem _)

theorem lookup_lset (l : List (Str × α)) (k k' : Str) (v : α) :
    (lset l k v).lookup k' = if k' = k then some v else l.lookup k' := by
  induction l with
  | nil => rw [lset, lookup_cons_if]
  | cons a rest ih =>
    obtain ⟨a1, a2⟩ := a
    unfold lset
    split
    · next hak =>
      subst hak
      rw [lookup_cons_if, lookup_cons_if]
      split <;> rfl
    · next hak =>
      rw [lookup_cons_if, lookup_cons_if, ih]
      split
      · next e => rw [if_neg (e ▸ hak)]
      · rfl

theorem fold_lset_fresh (xs : List β) (key : β → Str) (val : β → α) (d : List (Str × α))
    (hnd : (xs.map key).Nodup) (hdis : ∀ x ∈ xs, key x ∉ d.map (·.1)) :
    xs.foldl (fun d x => lset d (key x) (val x)) d = d ++ xs.map fun x => (key x, val x) := by
  induction xs generalizing d with
  | nil => exact (List.append_nil d).symm
  | cons x xs ih =>
    rw [List.map_cons, List.nodup_cons] at hnd
    rw [List.foldl_cons, lset_absent d _ _ (hdis x List.mem_cons_self), ih _ hnd.2, List.map_cons, List.append_assoc]; rfl
    intro y hy
    rw [List.map_append, List.mem_append, not_or]
    exact ⟨hdis y (List.mem_cons_of_mem _ hy), fun e => hnd.1 ((List.mem_singleton.mp e : key y = key x) ▸ List.mem_map_of_mem hy)⟩

end lset

section mapExcept
variable {α : Type u} {β : Type v} {γ : Type w} {δ : Type x}

theorem map_eq_ok {ε : Type u} {f : α → β} {x : Except ε α} {b : β} (h : x.map f = .ok b) : ∃ a, x = .ok a ∧ f a = b := by
  cases x with
  | error e => cases h
  | ok a => exact ⟨a, rfl, Except.ok.inj h⟩

theorem mapExcept_cons_ok {f : α → Except PyExc β} {a : α} {b : β} (h : f a = .ok b) (as : List α) :
    mapExcept f (a :: as) = (mapExcept f as).map (b :: ·) := by
  rw [mapExcept, h]
  cases mapExcept f as <;> rfl

theorem mapExcept_ok (f : α → Except PyExc β) (P : β → Prop) (l : List α) (h : ∀ a ∈ l, ∃ b, f a = .ok b ∧ P b) :
    ∃ bs, mapExcept f l = .ok bs ∧ ∀ b ∈ bs, P b := by
  induction l with
  | nil => exact ⟨[], rfl, nofun⟩
  | cons a as ih =>
    obtain ⟨b, hb, hp⟩ := h a List.mem_cons_self
    obtain ⟨bs, hbs, hps⟩ := ih fun x hx => h x (List.mem_cons_of_mem _ hx)
    exact ⟨b :: bs, by rw [mapExcept_cons_ok hb, hbs]; rfl, List.forall_mem_cons.mpr ⟨hp, hps⟩⟩

theorem mapExcept_cons_inv {f : α → Except PyExc β} {a : α} {as : List α} {bs : List β} (h : mapExcept f (a :: as) = .ok bs) :
    ∃ b bs', f a = .ok b ∧ mapExcept f as = .ok bs' ∧ bs = b :: bs' := by
  rw [mapExcept] at h
  cases hb : f a with
  | error e => rw [hb] at h; cases h
  | ok b =>
    cases hbs : mapExcept f as with
    | error e => rw [hb, hbs] at h; cases h
    | ok bs' => rw [hb, hbs] at h; exact ⟨b, bs', rfl, rfl, (Except.ok.inj h).symm⟩

theorem mapExcept_map (f : α → Except PyExc β) (g : γ → Except PyExc δ) (φ : α → γ) (ψ : β → δ)
    (h : ∀ a, g (φ a) = (f a).map ψ) (l : List α) : mapExcept g (l.map φ) = (mapExcept f l).map (·.map ψ) := by
  induction l with
  | nil => rfl
  | cons a as ih =>
    rw [List.map_cons, mapExcept, mapExcept, h, ih]
    cases f a with
    | error e => rfl
    | ok b => cases mapExcept f as <;> rfl

theorem mapExcept_eq_map (f : α → Except PyExc β) (φ : α → β) (l : List α) (h : ∀ a ∈ l, f a = .ok (φ a)) :
    mapExcept f l = .ok (l.map φ) := by
  induction l with
  | nil => rfl
  | cons a as ih =>
    rw [mapExcept_cons_ok (h a List.mem_cons_self), ih fun x hx => h x (List.mem_cons_of_mem _ hx)]; rfl

theorem mapExcept_id (f : α → Except PyExc α) (l : List α) (h : ∀ a ∈ l, f a = .ok a) : mapExcept f l = .ok l :=
  (mapExcept_eq_map f id l h).trans (congrArg Except.ok (List.map_id l))

/-- a fold that appends and stops at the first error is `mapExcept`, flattened -/
theorem foldl_eq_mapExcept (f : α → Except PyExc (List β)) (s : Except PyExc (List β) → α → Except PyExc (List β))
    (herr : ∀ e a, s (.error e) a = .error e) (hok : ∀ out a, s (.ok out) a = (f a).map (out ++ ·)) (l : List α)
    (out : List β) : l.foldl s (.ok out) = (mapExcept f l).map (out ++ ·.flatten) := by
  induction l generalizing out with
  | nil => exact congrArg Except.ok (List.append_nil out).symm
  | cons a as ih =>
    rw [List.foldl_cons, hok]
    cases hf : f a with
    | error e =>
      rw [mapExcept, hf]
      exact List.recOn (motive := fun l => l.foldl s (.error e) = .error e) as rfl fun a as ih => by
        rw [List.foldl_cons, herr]; exact ih
    | ok b =>
      rw [mapExcept_cons_ok hf]
      refine (ih (out ++ b)).trans ?_
      cases mapExcept f as with
      | error e => rfl
      | ok bs => exact congrArg Except.ok (List.append_assoc out b bs.flatten)

theorem mapExcept_cases (f : α → Except PyExc β) (e0 : PyExc) (l : List α) (h : ∀ a ∈ l, (∃ b, f a = .ok b) ∨ f a = .error e0) :
    (∃ bs, mapExcept f l = .ok bs) ∨ mapExcept f l = .error e0 := by
  induction l with
  | nil => exact Or.inl ⟨[], rfl⟩
  | cons a as ih =>
    rcases h a List.mem_cons_self with ⟨b, hb⟩ | hb
    · rw [mapExcept_cons_ok hb]
      rcases ih (fun x hx => h x (List.mem_cons_of_mem _ hx)) with ⟨bs, hbs⟩ | hbs
      · rw [hbs]; exact Or.inl ⟨_, rfl⟩
      · rw [hbs]; exact Or.inr rfl
    · rw [mapExcept, hb]; exact Or.inr rfl

end mapExcept

end Proofs.Assoc
