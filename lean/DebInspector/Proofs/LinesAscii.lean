/-
`deb822.split_lines` (`splitLinesAscii`): lines end at LF, CRLF, CR only.  Splitting a text made of
terminator-free lines each followed by `\n` gives the lines back.
-/
import DebInspector.Py.Str

namespace Proofs.LinesAscii
open Py

/-- `l` holds no line terminator of `split_lines` -/
def NoT (l : Str) : Prop := '\n' ∉ l ∧ '\r' ∉ l

theorem NoT.cons {c : Char} {cs : Str} (h : NoT (c :: cs)) : c ≠ '\n' ∧ c ≠ '\r' ∧ NoT cs :=
  ⟨fun e => h.1 (by simp [e]), fun e => h.2 (by simp [e]),
    fun m => h.1 (List.mem_cons_of_mem _ m), fun m => h.2 (List.mem_cons_of_mem _ m)⟩

theorem splitLinesAsciiAux_prefix (l rest cur : Str) (h : NoT l) :
    splitLinesAsciiAux (l ++ rest) cur false = splitLinesAsciiAux rest (l.reverse ++ cur) false := by
  induction l generalizing cur with
  | nil => rfl
  | cons c cs ih =>
    obtain ⟨hn, hr, hcs⟩ := h.cons
    rw [List.cons_append, splitLinesAsciiAux]
    simp only [hn, hr, false_and, if_false]
    rw [ih _ hcs]
    simp

theorem splitLinesAscii_line (l rest : Str) (h : NoT l) :
    splitLinesAscii (l ++ '\n' :: rest) = l :: splitLinesAscii rest := by
  unfold splitLinesAscii
  rw [splitLinesAsciiAux_prefix l _ [] h]
  simp [splitLinesAsciiAux]

theorem splitLinesAscii_single (l : Str) (h : NoT l) (hne : l ≠ []) : splitLinesAscii l = [l] := by
  have := splitLinesAsciiAux_prefix l [] [] h
  rw [List.append_nil] at this
  rw [splitLinesAscii, this]
  simp [splitLinesAsciiAux, hne]

theorem splitLinesAscii_seps (ls : List Str) (rest : Str) (h : ∀ x ∈ ls, NoT x) :
    splitLinesAscii ((ls.flatMap fun l => l ++ ['\n']) ++ rest) = ls ++ splitLinesAscii rest := by
  induction ls with
  | nil => rfl
  | cons s ss ih =>
    have e : ((s :: ss).flatMap fun l => l ++ ['\n']) ++ rest = s ++ '\n' :: ((ss.flatMap fun l => l ++ ['\n']) ++ rest) := by
      simp [List.flatMap_cons]
    rw [e, splitLinesAscii_line s _ (h s (by simp)), ih (fun x hx => h x (by simp [hx]))]
    simp

end Proofs.LinesAscii
