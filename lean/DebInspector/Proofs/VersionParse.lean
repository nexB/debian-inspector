/-
`Model.Version.fromString` against `Spec.Policy` (C03).

A string either lacks a separator or splits at its first (epoch) or last (revision) occurrence; every function of
the model and of the specification has one equation for each of the two shapes, and the proofs go by them.
-/
import DebInspector.Model.Version
import DebInspector.Spec.Dpkg
import DebInspector.Proofs.StrLemmas

namespace Proofs.VersionParse
open Py Spec Model.Version

theorem revChar_eq (c : Char) : isRevChar c = Policy.revChar c := rfl
theorem upChar_eq (c : Char) : isUpChar c = Policy.upChar c := rfl

theorem digit_ne_hyphen {c : Char} (h : isAsciiDigit c = true) : c ≠ '-' := by
  intro e; subst e; revert h; decide
theorem revChar_ne_hyphen {c : Char} (h : Policy.revChar c = true) : c ≠ '-' := by
  intro e; subst e; revert h; decide
theorem alnum_ne_hyphen {c : Char} (h : isAsciiAlnum c = true) : c ≠ '-' := by
  intro e; subst e; revert h; decide
theorem digit_alnum {c : Char} (h : isAsciiDigit c = true) : isAsciiAlnum c = true := by
  simp only [isAsciiDigit] at h; simp [isAsciiAlnum, Char.isAlphanum, h]
theorem digit_upChar {c : Char} (h : isAsciiDigit c = true) : Policy.upChar c = true := by
  simp [Policy.upChar, Policy.revChar, digit_alnum h]
theorem revChar_upChar {c : Char} (h : Policy.revChar c = true) : Policy.upChar c = true := by
  simp [Policy.upChar, h]
theorem upChar_not_hyphen_revChar {c : Char} (h : Policy.upChar c = true) (hn : c ≠ '-') :
    Policy.revChar c = true := by
  simp only [Policy.upChar, Bool.or_eq_true, decide_eq_true_eq] at h
  exact h.resolve_right hn

/-- `'+'` (43) is the least and `'~'` (126) the greatest of the characters a version may hold -/
theorem upChar_range {c : Char} (h : Policy.upChar c = true) : 43 ≤ c.toNat ∧ c.toNat ≤ 126 := by
  simp only [Policy.upChar, Policy.revChar, isAsciiAlnum, Char.isAlphanum, Char.isAlpha, Bool.or_eq_true,
    decide_eq_true_eq] at h
  rcases h with ((((((hu | hl) | hd) | rfl) | rfl) | rfl) | rfl)
  · have := (upper_iff c).mp hu; omega
  · have := (lower_iff c).mp hl; omega
  · have := Char.isDigit_iff_toNat.mp hd
    have e0 : '0'.toNat = 48 := rfl
    have e9 : '9'.toNat = 57 := rfl
    omega
  all_goals decide

theorem all_upChar_no_colon {s : Str} (h : s.all Policy.upChar = true) : ':' ∉ s :=
  not_mem_of_all (List.all_eq_true.mp h) (by decide)

theorem all_revChar_upChar {s : Str} (h : s.all Policy.revChar = true) : s.all Policy.upChar = true :=
  List.all_eq_true.mpr fun c m => revChar_upChar (List.all_eq_true.mp h c m)

/-! ### the specification on the two shapes -/

theorem splitEpoch_not_mem {s : Str} (h : ':' ∉ s) : Policy.splitEpoch s = (none, s) := by
  simp only [Policy.splitEpoch, partitionChar_not_mem _ _ h, Bool.false_eq_true, if_false]

theorem splitEpoch_split {e : Str} (h : ':' ∉ e) (r : Str) : Policy.splitEpoch (e ++ ':' :: r) = (some e, r) := by
  simp only [Policy.splitEpoch, partitionChar_split _ _ _ h, if_true]

theorem splitRevision_not_mem {s : Str} (h : '-' ∉ s) : Policy.splitRevision s = (s, none) := by
  simp only [Policy.splitRevision, rpartitionChar_not_mem _ _ h, Bool.false_eq_true, if_false]

theorem splitRevision_split {r : Str} (h : '-' ∉ r) (u : Str) : Policy.splitRevision (u ++ '-' :: r) = (u, some r) := by
  simp only [Policy.splitRevision, rpartitionChar_split _ _ _ h, if_true]

theorem validRest_not_mem {r : Str} (h : '-' ∉ r) :
    Policy.validRest r = (headP isAsciiDigit r && r.all Policy.upChar) := by
  simp only [Policy.validRest, splitRevision_not_mem h, Bool.and_true]

theorem validRest_split {rv : Str} (h : '-' ∉ rv) (u : Str) :
    Policy.validRest (u ++ '-' :: rv) =
      (headP isAsciiDigit u && u.all Policy.upChar && (!rv.isEmpty && rv.all Policy.revChar)) := by
  simp only [Policy.validRest, splitRevision_split h]

/-- `validRest` without reference to where the revision splits off -/
theorem validRest_iff (r : Str) : Policy.validRest r = true ↔
    headP isAsciiDigit r = true ∧ r.all Policy.upChar = true ∧ lastP (· != '-') r = true := by
  rcases split_last '-' r with hn | ⟨u, rv, rfl, hn⟩
  · rw [validRest_not_mem hn, Bool.and_eq_true]
    refine ⟨fun ⟨hd, ha⟩ => ⟨hd, ha, ?_⟩, fun ⟨hd, ha, _⟩ => ⟨hd, ha⟩⟩
    obtain ⟨c, r', rfl, -⟩ := eq_cons_of_headP hd
    exact lastP_ne_of_not_mem (List.cons_ne_nil _ _) hn
  · rw [validRest_split hn, lastP_append_cons]
    simp only [Bool.and_eq_true, Bool.not_eq_true', List.isEmpty_eq_false_iff, List.all_append, List.all_cons]
    constructor
    · rintro ⟨⟨hd, hu⟩, hne, hr⟩
      obtain ⟨c, u', rfl, hc⟩ := eq_cons_of_headP hd
      exact ⟨hc, ⟨hu, by decide, all_revChar_upChar hr⟩, by rw [lastP_cons_ne_nil _ _ _ hne]; exact lastP_ne_of_not_mem hne hn⟩
    · rintro ⟨hd, ⟨hu, -, hr⟩, hl⟩
      have hne : rv ≠ [] := fun e => by rw [e] at hl; revert hl; decide
      refine ⟨⟨?_, hu⟩, hne, List.all_eq_true.mpr fun x hx =>
        upChar_not_hyphen_revChar (List.all_eq_true.mp hr x hx) fun e => hn (e ▸ hx)⟩
      cases u with
      | nil => exact absurd rfl (digit_ne_hyphen (c := '-') hd)
      | cons c u' => exact hd

theorem validRest_upChar {r : Str} (h : Policy.validRest r = true) : r.all Policy.upChar = true :=
  ((validRest_iff r).mp h).2.1

theorem valid_components (t : Str) (h : Policy.valid t = true) :
    (Policy.split t).2.1.all Policy.upChar = true ∧ (Policy.split t).2.2.all Policy.upChar = true := by
  simp only [Policy.valid, Bool.and_eq_true] at h
  obtain ⟨_, hr⟩ := h
  simp only [Policy.validRest, Bool.and_eq_true] at hr
  obtain ⟨⟨_, hu⟩, hrv⟩ := hr
  simp only [Policy.split]
  refine ⟨hu, ?_⟩
  cases hh : (Policy.splitRevision (Policy.splitEpoch t).2).2 with
  | none => decide
  | some r =>
    rw [hh] at hrv
    simp only [Bool.and_eq_true] at hrv
    exact all_revChar_upChar hrv.2

/-! ### the recogniser -/

theorem afterEpoch_shape {r : Str} (h : afterEpoch r = true) :
    headP isAsciiDigit r = true ∧ r.all Policy.upChar = true ∧ lastP (· != '-') r = true := by
  rw [afterEpoch, Bool.and_eq_true, Bool.or_eq_true, Bool.or_eq_true] at h
  obtain ⟨hd, hr⟩ := h
  obtain ⟨c, r', rfl, hc⟩ := eq_cons_of_headP hd
  have hcl : (c != '-') = true := bne_iff_ne.mpr (digit_ne_hyphen hc)
  refine ⟨hd, ?_⟩
  rw [List.all_cons, digit_upChar hc, Bool.true_and, List.tail_cons] at *
  rcases hr with (hr | hA) | hB
  · rw [List.isEmpty_iff.mp hr]; exact ⟨rfl, hcl⟩
  · rw [altA, Bool.and_eq_true] at hA
    rw [lastP_cons_ne_nil _ _ _ (lastP_true_ne_nil hA.2)]
    exact ⟨hA.1, lastP_mono (fun hx => bne_iff_ne.mpr (alnum_ne_hyphen hx)) hA.2⟩
  · simp only [altB, Bool.and_eq_true] at hB
    obtain ⟨⟨⟨⟨hf, hx⟩, -⟩, hy⟩, hyl⟩ := hB
    rw [(partitionChar_spec '-' r').2.1 hf, List.all_append, List.all_cons, ← List.cons_append, lastP_append_cons,
      lastP_cons_ne_nil _ _ _ (lastP_true_ne_nil hyl)]
    exact ⟨by rw [all_revChar_upChar hx, all_revChar_upChar hy]; rfl,
      lastP_ne_of_not_mem (lastP_true_ne_nil hyl) fun m => revChar_ne_hyphen (List.all_eq_true.mp hy _ m) rfl⟩

theorem afterEpoch_validRest (r : Str) (h : afterEpoch r = true) : Policy.validRest r = true ∧ ':' ∉ r :=
  ⟨(validRest_iff r).mpr (afterEpoch_shape h), all_upChar_no_colon (afterEpoch_shape h).2.1⟩

/-- the first alternative of the pattern's tail is enough for what the policy obliges to accept -/
theorem afterEpoch_of_alnum {r : Str} (hd : headP isAsciiDigit r = true) (ha : r.all Policy.upChar = true)
    (hl : lastP isAsciiAlnum r = true) : afterEpoch r = true := by
  obtain ⟨c, r', rfl, hc⟩ := eq_cons_of_headP hd
  rw [List.all_cons, Bool.and_eq_true] at ha
  rw [afterEpoch, hd, Bool.true_and, List.tail_cons, altA]
  cases r' with
  | nil => rfl
  | cons d r'' =>
    rw [lastP_cons_ne_nil _ _ _ (List.cons_ne_nil _ _)] at hl
    rw [show (d :: r'').all isUpChar = true from ha.2, hl]; rfl

theorem validRest_afterEpoch (r : Str) (hv : Policy.validRest r = true)
    (hu : Policy.endsAlnum (Policy.splitRevision r).1 = true)
    (hr : (match (Policy.splitRevision r).2 with | none => true | some rv => Policy.endsAlnum rv) = true) :
    afterEpoch r = true := by
  obtain ⟨hd, ha, -⟩ := (validRest_iff r).mp hv
  refine afterEpoch_of_alnum hd ha ?_
  rcases split_last '-' r with hn | ⟨u, rv, rfl, hn⟩
  · rw [splitRevision_not_mem hn] at hu; exact hu
  · rw [splitRevision_split hn] at hr
    rw [lastP_append_cons, lastP_cons_ne_nil _ _ _ (lastP_true_ne_nil hr)]; exact hr

theorem isValidVersion_not_mem {s : Str} (h : ':' ∉ s) : isValidVersion s = afterEpoch s := by
  simp only [isValidVersion, partitionChar_not_mem _ _ h, Bool.false_and, Bool.false_eq_true, if_false]

theorem isValidVersion_split {e : Str} (h : ':' ∉ e) (r : Str) :
    isValidVersion (e ++ ':' :: r) = (!e.isEmpty && e.all isAsciiDigit && afterEpoch r) := by
  simp only [isValidVersion, partitionChar_split _ _ _ h, Bool.true_and]
  split
  · rename_i hc; rw [hc, Bool.true_and]
  · rename_i hc
    rw [Bool.not_eq_true] at hc
    rw [hc, Bool.false_and]
    -- the tail of the pattern matches no colon
    cases ha : afterEpoch (e ++ ':' :: r) with
    | false => rfl
    | true => exact absurd (by simp) (afterEpoch_validRest _ ha).2

theorem isValidVersion_valid (t : Str) (h : isValidVersion t = true) : Policy.valid t = true := by
  rcases split_first ':' t with hn | ⟨e, r, rfl, hn⟩
  · rw [isValidVersion_not_mem hn] at h
    rw [Policy.valid, splitEpoch_not_mem hn]
    exact (afterEpoch_validRest t h).1
  · rw [isValidVersion_split hn, Bool.and_eq_true] at h
    rw [Policy.valid, splitEpoch_split hn, Policy.validEpoch, h.1, (afterEpoch_validRest r h.2).1]; rfl

/-! ### the two parsing steps, and `fromString` -/

theorem pyIntDigits_cases (s : Str) :
    pyIntDigits s = .ok (digitsVal s) ∨ pyIntDigits s = .error .valueError := by
  unfold pyIntDigits; split <;> simp

theorem parseEpoch_not_mem {t : Str} (h : ':' ∉ t) : parseEpoch t = .ok (0, t) := by
  rw [parseEpoch, if_neg (by simpa using h)]

theorem parseEpoch_split {e : Str} (h : ':' ∉ e) (r : Str) :
    parseEpoch (e ++ ':' :: r) = match pyIntDigits e with | .ok n => .ok (n, r) | .error x => .error x := by
  rw [parseEpoch, if_pos (by simp)]
  simp only [partitionChar_split _ _ _ h]
  cases pyIntDigits e <;> rfl

theorem parseRevision_not_mem (e : Nat) {rest : Str} (h : '-' ∉ rest) : parseRevision e rest = ⟨e, rest, ['0']⟩ := by
  rw [parseRevision, if_neg (by simpa using h)]

theorem parseRevision_split (e : Nat) (u : Str) {rv : Str} (h : '-' ∉ rv) :
    parseRevision e (u ++ '-' :: rv) = ⟨e, u, rv⟩ := by
  rw [parseRevision, if_pos (by simp)]
  simp only [rpartitionChar_split _ _ _ h]

theorem parseEpoch_cases (t : Str) :
    parseEpoch t = .error .valueError ∨
    parseEpoch t = .ok ((match (Policy.splitEpoch t).1 with | none => 0 | some e => digitsVal e),
                        (Policy.splitEpoch t).2) := by
  rcases split_first ':' t with hn | ⟨e, r, rfl, hn⟩
  · rw [parseEpoch_not_mem hn, splitEpoch_not_mem hn]; exact .inr rfl
  · rw [parseEpoch_split hn, splitEpoch_split hn]
    rcases pyIntDigits_cases e with h | h <;> rw [h]
    · exact .inr rfl
    · exact .inl rfl

theorem parseRevision_eq (e : Nat) (rest : Str) :
    parseRevision e rest =
      ⟨e, (Policy.splitRevision rest).1,
          (match (Policy.splitRevision rest).2 with | none => ['0'] | some r => r)⟩ := by
  rcases split_last '-' rest with hn | ⟨u, rv, rfl, hn⟩
  · rw [parseRevision_not_mem e hn, splitRevision_not_mem hn]
  · rw [parseRevision_split e u hn, splitRevision_split hn]

theorem fromString_eq (s : Str) : fromString s =
    if isValidVersion (strip s) = true then
      match parseEpoch (strip s) with
      | .error x => .error x
      | .ok er => .ok (parseRevision er.1 er.2)
    else .error .valueError := by
  rw [fromString]
  cases strip s with
  | nil => rfl
  | cons c t =>
    simp only [List.isEmpty_cons, Bool.false_eq_true, if_false, Bool.not_eq_true']
    cases isValidVersion (c :: t) <;> rfl

theorem fromString_error (s : Str) (x : PyExc) (h : fromString s = .error x) : x = .valueError := by
  rw [fromString_eq] at h
  split at h
  · rcases parseEpoch_cases (strip s) with h' | h' <;> rw [h'] at h <;> cases h
    rfl
  · cases h; rfl

theorem fromString_ok (s : Str) (v : Ver) (h : fromString s = .ok v) :
    Policy.valid (strip s) = true ∧ (v.epoch, v.upstream, v.revision) = Policy.split (strip s) := by
  rw [fromString_eq] at h
  split at h
  · rename_i hv
    refine ⟨isValidVersion_valid _ hv, ?_⟩
    rcases parseEpoch_cases (strip s) with h' | h' <;> rw [h'] at h <;> cases h
    rw [parseRevision_eq]; rfl
  · cases h

theorem mustAccept_fromString (s : Str)
    (h : Policy.mustAccept Generated.intMaxStrDigits (strip s) = true) :
    ∃ v, fromString s = .ok v := by
  rw [fromString_eq]
  generalize strip s = t at h
  simp only [Policy.mustAccept, Policy.valid, Bool.and_eq_true] at h
  obtain ⟨⟨⟨⟨hve, hvr⟩, hu⟩, hr⟩, hlen⟩ := h
  have hae := validRest_afterEpoch _ hvr hu hr
  rcases split_first ':' t with hn | ⟨e, r, rfl, hn⟩
  · rw [splitEpoch_not_mem hn] at hae
    rw [isValidVersion_not_mem hn, if_pos hae, parseEpoch_not_mem hn]
    exact ⟨_, rfl⟩
  · rw [splitEpoch_split hn] at hae hve hlen
    have hint : pyIntDigits e = .ok (digitsVal e) := by
      simp only [Bool.or_eq_true, decide_eq_true_eq] at hlen
      rw [pyIntDigits, if_neg (by omega)]
    rw [isValidVersion_split hn, show (!e.isEmpty && e.all isAsciiDigit) = true from hve, hae,
      if_pos (show (true && true) = true from rfl), parseEpoch_split hn, hint]
    exact ⟨_, rfl⟩

/-- what the policy obliges to accept is accepted, read from the side of a rejection -/
theorem mustAccept_of_error {s : Str} {x : PyExc} (h : fromString s = .error x) :
    Policy.mustAccept Generated.intMaxStrDigits (strip s) = false := by
  cases hA : Policy.mustAccept Generated.intMaxStrDigits (strip s) with
  | false => rfl
  | true =>
    obtain ⟨v, hv⟩ := mustAccept_fromString s hA
    rw [hv] at h; cases h

end Proofs.VersionParse
