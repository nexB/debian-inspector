/-
`str.splitlines` and the `'\n '.join` encoder: lines produced by `splitlines` contain no line
boundary, and joining boundary-free non-empty pieces with `"\n "` splits back into those pieces;
`joinNl` and `joinNlSp` of `Model.Debcon` as `join`.
-/
import DebInspector.Model.Debcon
import DebInspector.Proofs.SplitJoin

namespace Proofs.Splitlines
open Py Model.Debcon

/-- `l` holds no line boundary of `str.splitlines`: it is a single line -/
def NoB (l : Str) : Prop := ∀ c ∈ l, isBoundary c = false

theorem NoB_rstrip {l : Str} (h : NoB l) : NoB (rstrip l) := fun c hc => h c (rstrip_subset l c hc)
theorem NoB_lstrip {l : Str} (h : NoB l) : NoB (lstrip l) := fun c hc => h c (lstrip_subset l c hc)
theorem NoB_strip {l : Str} (h : NoB l) : NoB (strip l) := NoB_rstrip (NoB_lstrip h)
theorem NoB_tail {l : Str} (h : NoB l) : NoB l.tail := fun c hc => h c (List.mem_of_mem_tail hc)
theorem NoB_sp {l : Str} (h : NoB l) : NoB (' ' :: l) := fun c hc => by
  rcases List.mem_cons.mp hc with rfl | hc
  · exact sp_not_boundary
  · exact h c hc

/-! ### the scanner, one character at a time

`cr` says that the previous character was `\r`: a `\n` right after it is swallowed. The side conditions
`… ∨ cr = false` below keep that case away. -/

theorem splitlinesAux_char {c : Char} (h : isBoundary c = false) (rest cur : Str) (cr : Bool) :
    splitlinesAux (c :: rest) cur cr = splitlinesAux rest (c :: cur) false := by
  have hn : c ≠ '\n' := fun e => by rw [e, nl_boundary] at h; cases h
  have hr : c ≠ '\r' := fun e => by rw [e, cr_boundary] at h; cases h
  rw [splitlinesAux, if_neg (fun hc => hn hc.1), if_neg hr, if_neg (by rw [h]; decide)]

theorem splitlinesAux_nl (rest cur : Str) :
    splitlinesAux ('\n' :: rest) cur false = cur.reverse :: splitlinesAux rest [] false := by
  rw [splitlinesAux, if_neg (fun hc => nomatch hc.2), if_neg (by decide), if_pos nl_boundary]

/-- a `\n` right after `\r` is skipped, any other boundary closes the line, every other character joins it -/
theorem splitlinesAux_cons (c : Char) (rest cur : Str) (cr : Bool) :
    (cr = true ∧ splitlinesAux (c :: rest) cur cr = splitlinesAux rest cur false) ∨
    (∃ cr', splitlinesAux (c :: rest) cur cr = cur.reverse :: splitlinesAux rest [] cr') ∨
    (isBoundary c = false ∧ splitlinesAux (c :: rest) cur cr = splitlinesAux rest (c :: cur) false) := by
  rw [splitlinesAux]
  by_cases h1 : c = '\n' ∧ cr = true
  · exact .inl ⟨h1.2, if_pos h1⟩
  rw [if_neg h1]
  by_cases h2 : c = '\r'
  · exact .inr (.inl ⟨true, if_pos h2⟩)
  rw [if_neg h2]
  cases isBoundary c with
  | true => exact .inr (.inl ⟨false, rfl⟩)
  | false => exact .inr (.inr ⟨rfl, rfl⟩)

theorem splitlinesAux_noB (t cur : Str) (cr : Bool) (hc : NoB cur) :
    ∀ l ∈ splitlinesAux t cur cr, NoB l := by
  have hrev : NoB cur.reverse := fun d hd => hc d (List.mem_reverse.mp hd)
  induction t generalizing cur cr with
  | nil =>
    intro l hl
    rw [splitlinesAux] at hl
    split at hl
    · cases hl
    · cases List.mem_singleton.mp hl; exact hrev
  | cons c rest ih =>
    rcases splitlinesAux_cons c rest cur cr with ⟨_, e⟩ | ⟨cr', e⟩ | ⟨hb, e⟩ <;> rw [e]
    · exact ih cur false hc hrev
    · intro l hl
      rcases List.mem_cons.mp hl with rfl | hl
      · exact hrev
      · exact ih [] cr' (fun _ h => nomatch h) (fun _ h => nomatch h) l hl
    · have hc' : NoB (c :: cur) := List.forall_mem_cons.mpr ⟨hb, hc⟩
      exact ih (c :: cur) false hc' fun d hd => hc' d (List.mem_reverse.mp hd)

theorem splitlines_noB (t : Str) : ∀ l ∈ splitlines t, NoB l :=
  splitlinesAux_noB t [] false (fun _ h => nomatch h)

theorem splitlinesAux_ne_nil (rest cur : Str) (cr : Bool) (h : cur ≠ [] ∨ rest ≠ [] ∧ cr = false) :
    splitlinesAux rest cur cr ≠ [] := by
  induction rest generalizing cur cr with
  | nil => simpa [splitlinesAux] using h
  | cons c cs ih =>
    rcases splitlinesAux_cons c cs cur cr with ⟨hcr, e⟩ | ⟨cr', e⟩ | ⟨_, e⟩ <;> rw [e]
    · exact ih cur false (.inl (h.resolve_right fun h' => by rw [hcr] at h'; cases h'.2))
    · exact List.cons_ne_nil _ _
    · exact ih (c :: cur) false (.inl (List.cons_ne_nil _ _))

theorem splitlines_ne_nil (t : Str) (h : t ≠ []) : splitlines t ≠ [] :=
  splitlinesAux_ne_nil t [] false (.inr ⟨h, rfl⟩)

theorem splitlinesAux_head (rest cur : Str) (cr : Bool) (hcur : cur ≠ []) :
    ∃ l ls m, splitlinesAux rest cur cr = l :: ls ∧ l = cur.reverse ++ m := by
  induction rest generalizing cur cr with
  | nil => exact ⟨cur.reverse, [], [], by simp [splitlinesAux, hcur], by simp⟩
  | cons c rest ih =>
    unfold splitlinesAux
    by_cases h1 : c = '\n' ∧ cr = true
    · simp only [h1, and_self, if_true]; exact ih cur false hcur
    · simp only [h1, if_false]
      by_cases h2 : c = '\r'
      · simp only [h2, if_true]; exact ⟨_, _, [], rfl, by simp⟩
      · simp only [h2, if_false]
        by_cases h3 : isBoundary c = true
        · simp only [h3, if_true]; exact ⟨_, _, [], rfl, by simp⟩
        · simp only [h3, Bool.false_eq_true, if_false]
          obtain ⟨l, ls, m, h4, h5⟩ := ih (c :: cur) false (by simp)
          exact ⟨l, ls, c :: m, h4, by rw [h5]; simp⟩

theorem splitlines_head (v : Str) (hne : v ≠ []) (hh : headP isSpace v = false) :
    ∃ c m ls, splitlines v = (c :: m) :: ls ∧ isSpace c = false := by
  cases v with
  | nil => exact absurd rfl hne
  | cons c cs =>
    have hc : isSpace c = false := by simpa [headP] using hh
    have hb : isBoundary c = false := by
      cases h : isBoundary c with
      | false => rfl
      | true => rw [isBoundary_isSpace h] at hc; cases hc
    have hn : c ≠ '\n' := by intro e; subst e; revert hc; decide
    have hr : c ≠ '\r' := by intro e; subst e; revert hc; decide
    have hsl : splitlines (c :: cs) = splitlinesAux cs [c] false := by
      simp [splitlines, splitlinesAux, hn, hr, hb]
    obtain ⟨l, ls, m, h1, h2⟩ := splitlinesAux_head cs [c] false (by simp)
    have hl : l = c :: m := by simpa using h2
    exact ⟨c, m, ls, by rw [hsl, h1, hl], hc⟩

theorem splitlinesAux_prefix (l rest cur : Str) (cr : Bool) (h : NoB l) (hcr : l ≠ [] ∨ cr = false) :
    splitlinesAux (l ++ rest) cur cr = splitlinesAux rest (l.reverse ++ cur) false := by
  induction l generalizing cur cr with
  | nil => rw [hcr.resolve_left (· rfl)]; rfl
  | cons c cs ih =>
    have ⟨hc, hcs⟩ := List.forall_mem_cons.mp h
    rw [List.cons_append, splitlinesAux_char hc, ih (c :: cur) false hcs (.inr rfl), List.reverse_cons,
      List.append_assoc, List.singleton_append]

theorem splitlinesAux_last (l : Str) (h : NoB l) :
    splitlinesAux l [] false = if l.isEmpty then [] else [l] := by
  have := splitlinesAux_prefix l [] [] false h (.inr rfl)
  rw [List.append_nil] at this
  rw [this]
  simp [splitlinesAux]

theorem splitlinesAux_single (l : Str) (h : NoB l) (hne : l ≠ []) :
    splitlinesAux l [] false = [l] := by
  rw [splitlinesAux_last l h, if_neg (by simpa using hne)]

theorem splitlinesAux_line (l rest : Str) (h : NoB l) :
    splitlinesAux (l ++ '\n' :: rest) [] false = l :: splitlinesAux rest [] false := by
  rw [splitlinesAux_prefix l _ [] false h (.inr rfl), splitlinesAux_nl, List.append_nil, List.reverse_reverse]

/-- the first piece may be empty if it is not alone; the later ones come back with their leading space -/
theorem splitlines_joinNlSp (p : Str) (ps : List Str) (hp : NoB p) (hpne : p ≠ [] ∨ ps ≠ [])
    (hps : ∀ q ∈ ps, NoB q ∧ q ≠ []) :
    splitlines (joinNlSp (p :: ps)) = p :: ps.map (' ' :: ·) := by
  unfold splitlines
  induction ps generalizing p with
  | nil => exact splitlinesAux_single p hp (hpne.resolve_right (· rfl))
  | cons q qs ih =>
    have e : joinNlSp (p :: q :: qs) = p ++ '\n' :: joinNlSp ((' ' :: q) :: qs) := by
      cases qs <;> rfl
    rw [e, splitlinesAux_line p _ hp, ih (' ' :: q) (NoB_sp (hps q (.head _)).1) (.inl (List.cons_ne_nil _ _))
      fun r hr => hps r (.tail _ hr)]
    rfl

/-- `ls` without its last element if that one is empty -/
def dropLastEmpty : List Str → List Str
  | [] => []
  | [l] => if l.isEmpty then [] else [l]
  | l :: m :: ms => l :: dropLastEmpty (m :: ms)

theorem dropLastEmpty_cons (f : Str) (ds : List Str) (hf : f ≠ []) : dropLastEmpty (f :: ds) = f :: dropLastEmpty ds := by
  cases ds with
  | nil => exact if_neg (by simpa using hf)
  | cons d ds => rfl

theorem dropLastEmpty_eq_nil {m : Str} {ms : List Str} (h : dropLastEmpty (m :: ms) = []) : m = [] ∧ ms = [] := by
  cases ms with
  | nil =>
    cases m with
    | nil => exact ⟨rfl, rfl⟩
    | cons _ _ => cases h
  | cons a as => cases h

theorem dropLastEmpty_subset (ds : List Str) : ∀ d ∈ dropLastEmpty ds, d ∈ ds := by
  induction ds with
  | nil => exact fun _ h => h
  | cons l ls ih =>
    intro d hd
    cases ls with
    | nil =>
      rw [dropLastEmpty] at hd
      split at hd
      · cases hd
      · exact hd
    | cons m ms =>
      rcases List.mem_cons.mp (show d ∈ l :: dropLastEmpty (m :: ms) from hd) with rfl | hd
      · exact .head _
      · exact .tail _ (ih d hd)

/-- pieces may be empty here: `splitlines` does not return a trailing empty one -/
theorem dropLastEmpty_id (ls : List Str) (h : ∀ l ∈ ls.getLast?, l ≠ []) : dropLastEmpty ls = ls := by
  induction ls with
  | nil => rfl
  | cons l ls ih =>
    cases ls with
    | nil =>
      have : l.isEmpty = false := List.isEmpty_eq_false_iff.mpr (h l rfl)
      simp [dropLastEmpty, this]
    | cons m r =>
      simp only [dropLastEmpty]
      rw [ih (fun x hx => h x (by simpa [List.getLast?_cons_cons] using hx))]

theorem splitlines_joinNl (ls : List Str) (h : ∀ l ∈ ls, NoB l) :
    splitlines (joinNl ls) = dropLastEmpty ls := by
  unfold splitlines
  induction ls with
  | nil => rfl
  | cons l ls ih =>
    cases ls with
    | nil => exact splitlinesAux_last l (h l (.head _))
    | cons m ms =>
      show splitlinesAux (l ++ '\n' :: joinNl (m :: ms)) [] false = _
      rw [splitlinesAux_line l _ (h l (.head _)), ih fun x hx => h x (.tail _ hx)]
      rfl

/-! ### `joinNl`, `joinNlSp`: `join` with a line feed -/

theorem joinNl_eq_join (ls : List Str) : Model.Debcon.joinNl ls = join ['\n'] ls :=
  eq_join rfl (fun _ => rfl) (fun _ _ _ => rfl) ls

theorem joinNl_ne_nil' (l : Str) (ls : List Str) (h : l ≠ []) : Model.Debcon.joinNl (l :: ls) ≠ [] :=
  joinNl_eq_join _ ▸ join_ne_nil _ l ls h

theorem joinNl_isEmpty (l : Str) (ls : List Str) (h : l ≠ []) : (Model.Debcon.joinNl (l :: ls)).isEmpty = false :=
  List.isEmpty_eq_false_iff.mpr (joinNl_ne_nil' l ls h)

theorem joinNl_headP (p : Char → Bool) (l : Str) (ls : List Str) (h : l ≠ []) :
    headP p (Model.Debcon.joinNl (l :: ls)) = headP p l := by
  obtain ⟨c, cs, rfl⟩ := List.exists_cons_of_ne_nil h
  cases ls <;> rfl

theorem joinNl_cons2 (a b : Str) (rest : List Str) :
    joinNl (a :: b :: rest) = a ++ '\n' :: joinNl (b :: rest) := rfl

theorem joinNl_cons_append (a c : Str) (rest : List Str) :
    joinNl ((a ++ c) :: rest) = a ++ joinNl (c :: rest) := by
  rw [joinNl_eq_join, joinNl_eq_join]; exact join_cons_append _ a c rest

theorem joinNl_cons_sp (c : Str) (rest : List Str) :
    joinNl ((' ' :: c) :: rest) = ' ' :: joinNl (c :: rest) :=
  joinNl_cons_append [' '] c rest

theorem joinNlSp_eq (x : Str) (xs : List Str) : joinNlSp (x :: xs) = joinNl (x :: xs.map (' ' :: ·)) := by
  rw [joinNl_eq_join, eq_join (f := joinNlSp) (sep := ['\n', ' ']) rfl (fun _ => rfl) (fun _ _ _ => rfl)]
  exact join_pad ['\n'] [' '] x xs

theorem lastP_joinNl (p : Char → Bool) (x : Str) (xs : List Str) (h : ∀ l ∈ (x :: xs).getLast?, l ≠ []) :
    lastP p (joinNl (x :: xs)) = lastP p ((x :: xs).getLast (by simp)) := by
  induction xs generalizing x with
  | nil => rfl
  | cons y ys ih =>
    have hy : ∀ l ∈ (y :: ys).getLast?, l ≠ [] := fun l hl => h l (by rwa [List.getLast?_cons_cons])
    have hne : joinNl (y :: ys) ≠ [] := by
      cases ys with
      | nil => exact hy y rfl
      | cons z zs => rw [joinNl_cons2]; simp
    rw [joinNl_cons2, lastP_append_ne _ _ _ (by simp), lastP_cons_ne_nil _ _ _ hne, ih y hy]
    rfl

theorem joinNl_append (a b : List Str) (ha : a ≠ []) (hb : b ≠ []) :
    joinNl (a ++ b) = joinNl a ++ '\n' :: joinNl b := by
  simp only [joinNl_eq_join]; exact join1_append '\n' a b ha hb

theorem joinNl_flatMap {α} (gs : List α) (fl : α → List Str) (h : ∀ g ∈ gs, fl g ≠ []) :
    joinNl (gs.map fun g => joinNl (fl g)) = joinNl (gs.flatMap fl) := by
  induction gs with
  | nil => rfl
  | cons g gs ih =>
    have ihh := ih (fun x hx => h x (by simp [hx]))
    cases gs with
    | nil => simp [joinNl]
    | cons g2 gs2 =>
      have e1 : joinNl ((g :: g2 :: gs2).map fun g => joinNl (fl g)) =
          joinNl (fl g) ++ '\n' :: joinNl ((g2 :: gs2).map fun g => joinNl (fl g)) := rfl
      have hne2 : (g2 :: gs2).flatMap fl ≠ [] := by
        simp only [List.flatMap_cons]
        intro e
        exact h g2 (by simp) (List.append_eq_nil_iff.mp e).1
      rw [e1, ihh]
      rw [show (g :: g2 :: gs2).flatMap fl = fl g ++ (g2 :: gs2).flatMap fl from List.flatMap_cons, joinNl_append _ _ (h g (by simp)) hne2]

end Proofs.Splitlines
