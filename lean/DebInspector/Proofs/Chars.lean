/-
Character classes of `Py/Str.lean`: the ASCII letters and their case maps, Python white space and line boundaries.
-/
import DebInspector.Py.Str

namespace Py

theorem toNat_ofNat {n : Nat} (h : n < 0xd800) : (Char.ofNat n).toNat = n := by
  rw [Char.ofNat, dif_pos (.inl h)]
  exact UInt32.toNat_ofNatLT ..

theorem sp_space : isSpace ' ' = true := by decide
theorem dot_not_space : isSpace '.' = false := by decide

/-- no white space among the printable ASCII characters: 32 is the space, 133 is U+0085, the first white space above it -/
theorem isSpace_range {c : Char} (h : isSpace c = true) : c.toNat ≤ 32 ∨ 133 ≤ c.toNat := by
  have table : ∀ n ∈ Generated.spaceCodes, n ≤ 32 ∨ 133 ≤ n := by decide
  exact table _ (by simpa [isSpace] using h)

theorem nl_boundary : isBoundary '\n' = true := by decide
theorem cr_boundary : isBoundary '\r' = true := by decide
theorem sp_not_boundary : isBoundary ' ' = false := by decide
theorem dot_not_boundary : isBoundary '.' = false := by decide

/-- every line boundary of `str.splitlines` is white space -/
theorem isBoundary_isSpace {c : Char} (h : isBoundary c = true) : isSpace c = true := by
  have table : ∀ n ∈ Generated.boundaryCodes, n ∈ Generated.spaceCodes := by decide
  simp only [isBoundary, isSpace, List.contains_iff_mem] at *
  exact table _ h

theorem upper_iff (c : Char) : isAsciiUpper c = true ↔ 65 ≤ c.toNat ∧ c.toNat ≤ 90 := by
  simp [isAsciiUpper, Char.isUpper, UInt32.le_iff_toNat_le]

theorem lower_iff (c : Char) : isAsciiLower c = true ↔ 97 ≤ c.toNat ∧ c.toNat ≤ 122 := by
  simp [isAsciiLower, Char.isLower, UInt32.le_iff_toNat_le]

/-- lower-casing moves the 26 capital letters and nothing else -/
theorem alnum_toNat {c : Char} (h : isAsciiAlnum c = true) :
    (65 ≤ c.toNat ∧ c.toNat ≤ 90) ∨ (97 ≤ c.toNat ∧ c.toNat ≤ 122) ∨ (48 ≤ c.toNat ∧ c.toNat ≤ 57) := by
  simp only [isAsciiAlnum, Char.isAlphanum, Char.isAlpha, Bool.or_eq_true] at h
  rcases h with (h | h) | h
  · exact .inl ((upper_iff c).mp h)
  · exact .inr (.inl ((lower_iff c).mp h))
  · exact .inr (.inr (Char.isDigit_iff_toNat.mp h))

theorem alnum_range {c : Char} (h : (isAsciiAlnum c || c == '-') = true) :
    (0x21 ≤ c.toNat && c.toNat ≤ 0x7e && c != ':') = true := by
  rcases Bool.or_eq_true_iff.mp h with h | h
  · have hr := alnum_toNat h
    have hne : c ≠ ':' := fun e => by subst e; revert h; decide
    simp only [Bool.and_eq_true, decide_eq_true_eq, bne_iff_ne]
    exact ⟨⟨by omega, by omega⟩, hne⟩
  · rw [beq_iff_eq.mp h]; decide

theorem lowerAsciiChar_cases (c : Char) : lowerAsciiChar c = c ∨
    (65 ≤ c.toNat ∧ c.toNat ≤ 90 ∧ (lowerAsciiChar c).toNat = c.toNat + 32) := by
  unfold lowerAsciiChar
  split
  · rename_i hu
    have := (upper_iff c).mp hu
    exact Or.inr ⟨this.1, this.2, toNat_ofNat (by omega)⟩
  · exact Or.inl rfl

theorem ascii_table : ∀ n ∈ List.range 128,
    (lowerAsciiChar (lowerAsciiChar (Char.ofNat n)) = lowerAsciiChar (Char.ofNat n) ∧
     lowerAsciiChar (upperAsciiChar (Char.ofNat n)) = lowerAsciiChar (Char.ofNat n) ∧
     upperAsciiChar (upperAsciiChar (Char.ofNat n)) = upperAsciiChar (Char.ofNat n) ∧
     upperAsciiChar (lowerAsciiChar (Char.ofNat n)) = upperAsciiChar (Char.ofNat n) ∧
     ((lowerAsciiChar (Char.ofNat n) == '-') = (Char.ofNat n == '-')) ∧
     ((upperAsciiChar (Char.ofNat n) == '-') = (Char.ofNat n == '-'))) ∧
    isAsciiAlpha (lowerAsciiChar (Char.ofNat n)) = isAsciiAlpha (Char.ofNat n) ∧
    isAsciiAlnum (lowerAsciiChar (Char.ofNat n)) = isAsciiAlnum (Char.ofNat n) := by
  decide +kernel

theorem ascii_facts (c : Char) :
    (lowerAsciiChar (lowerAsciiChar c) = lowerAsciiChar c ∧
     lowerAsciiChar (upperAsciiChar c) = lowerAsciiChar c ∧
     upperAsciiChar (upperAsciiChar c) = upperAsciiChar c ∧
     upperAsciiChar (lowerAsciiChar c) = upperAsciiChar c ∧
     ((lowerAsciiChar c == '-') = (c == '-')) ∧
     ((upperAsciiChar c == '-') = (c == '-'))) ∧
    isAsciiAlpha (lowerAsciiChar c) = isAsciiAlpha c ∧ isAsciiAlnum (lowerAsciiChar c) = isAsciiAlnum c := by
  by_cases h : c.toNat < 128
  · have := ascii_table c.toNat (by simpa using h)
    rwa [Char.ofNat_toNat] at this
  · -- beyond ASCII neither case map moves anything
    have hu : isAsciiUpper c = false := Bool.eq_false_iff.mpr fun hc => by have := (upper_iff c).mp hc; omega
    have hl : isAsciiLower c = false := Bool.eq_false_iff.mpr fun hc => by have := (lower_iff c).mp hc; omega
    simp [lowerAsciiChar, upperAsciiChar, hu, hl]

theorem case_facts (c : Char) :
    lowerAsciiChar (lowerAsciiChar c) = lowerAsciiChar c ∧
    lowerAsciiChar (upperAsciiChar c) = lowerAsciiChar c ∧
    upperAsciiChar (upperAsciiChar c) = upperAsciiChar c ∧
    upperAsciiChar (lowerAsciiChar c) = upperAsciiChar c ∧
    ((lowerAsciiChar c == '-') = (c == '-')) ∧
    ((upperAsciiChar c == '-') = (c == '-')) :=
  (ascii_facts c).1

theorem class_facts (c : Char) :
    isAsciiAlpha (lowerAsciiChar c) = isAsciiAlpha c ∧ isAsciiAlnum (lowerAsciiChar c) = isAsciiAlnum c :=
  (ascii_facts c).2

theorem lowerAsciiChar_lower (c : Char) : lowerAsciiChar (lowerAsciiChar c) = lowerAsciiChar c := (case_facts c).1
theorem lowerAsciiChar_upper (c : Char) : lowerAsciiChar (upperAsciiChar c) = lowerAsciiChar c := (case_facts c).2.1
theorem upperAsciiChar_lower (c : Char) : upperAsciiChar (lowerAsciiChar c) = upperAsciiChar c := (case_facts c).2.2.2.1
theorem lowerAsciiChar_beq_dash (c : Char) : (lowerAsciiChar c == '-') = (c == '-') := (case_facts c).2.2.2.2.1
theorem isAsciiAlpha_lower (c : Char) : isAsciiAlpha (lowerAsciiChar c) = isAsciiAlpha c := (class_facts c).1

theorem nameCh_lower (c : Char) :
    (isAsciiAlnum (lowerAsciiChar c) || lowerAsciiChar c == '-') = (isAsciiAlnum c || c == '-') := by
  rw [(class_facts c).2, (case_facts c).2.2.2.2.1]

/-! ### digits -/

theorem isDigit_iff_mem (c : Char) : c.isDigit = true ↔ c ∈ (List.range' 48 10).map Char.ofNat := by
  constructor
  · intro h
    have h9 : '9'.toNat = 57 := rfl
    have := Char.isDigit_iff_toNat.mp h
    exact List.mem_map.mpr ⟨c.toNat, List.mem_range'_1.mpr ⟨this.1, by omega⟩, Char.ofNat_toNat c⟩
  · intro h
    obtain ⟨n, hn, rfl⟩ := List.mem_map.mp h
    revert n
    decide

theorem asciiDigit_lt {c : Char} (h : c.isDigit = true) : c.toNat < 128 := by
  have := Char.isDigit_iff_toNat.mp h
  have h9 : '9'.toNat = 57 := rfl
  omega

/-- below 128 the Unicode decimal digits are the ASCII digits: the table of `str.isdigit` starts with (48, 57) and goes
on above 127 -/
theorem isDigitU_ascii {c : Char} (h : c.toNat < 128) : isDigitU c = c.isDigit := by
  obtain ⟨rest, he, hr⟩ : ∃ rest, Generated.isdigitRanges = (48, 57) :: rest ∧ rest.all (fun r => 128 ≤ r.1) = true :=
    ⟨_, rfl, by decide +kernel⟩
  have hrest : rest.any (fun r => r.1 ≤ c.toNat && c.toNat ≤ r.2) = false :=
    List.any_eq_false.mpr fun r hm => by
      have := List.all_eq_true.mp hr r hm
      simp only [decide_eq_true_eq] at this
      simp only [Bool.and_eq_true, decide_eq_true_eq]
      omega
  have h0 : '0'.toNat = 48 := rfl
  have h9 : '9'.toNat = 57 := rfl
  rw [Bool.eq_iff_iff, Char.isDigit_iff_toNat, isDigitU, inRanges, he, List.any_cons, hrest, h0, h9]
  simp

/-! ### `lowerAscii` -/

theorem lowerAscii_lower (w : Str) : lowerAscii (lowerAscii w) = lowerAscii w :=
  List.map_map.trans (List.map_congr_left fun c _ => lowerAsciiChar_lower c)

theorem lowerAscii_upper (w : Str) : lowerAscii (w.map upperAsciiChar) = lowerAscii w :=
  List.map_map.trans (List.map_congr_left fun c _ => lowerAsciiChar_upper c)

theorem all_lower (p : Char → Bool) (hp : ∀ c, p (lowerAsciiChar c) = p c) (s : Str) : (lowerAscii s).all p = s.all p := by
  unfold lowerAscii
  induction s with
  | nil => rfl
  | cons c cs ih => simp only [List.map_cons, List.all_cons, hp, ih]

theorem headP_lower (p : Char → Bool) (hp : ∀ c, p (lowerAsciiChar c) = p c) (s : Str) : headP p (lowerAscii s) = headP p s := by
  cases s with
  | nil => rfl
  | cons c cs => exact hp c

end Py
