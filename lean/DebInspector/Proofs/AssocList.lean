/-
Lists of pairs read as association lists: `List.lookup` against the keys `l.map (·.1)`, lists extended at the end, folds that insert
into a list, and `mapM` into `Except`.
Nothing here mentions the model.
-/

namespace Proofs.Assoc

universe u v w x

section snoc
variable {α : Type u} {β : Type v}

theorem forall_mem_snoc {p : α → Prop} {l : List α} {a : α} : (∀ x ∈ l ++ [a], p x) ↔ (∀ x ∈ l, p x) ∧ p a := by
  rw [List.forall_mem_append, List.forall_mem_singleton]

theorem snoc_subset_snoc {l s : List α} (a : α) (h : ∀ x ∈ l, x ∈ s) : ∀ x ∈ l ++ [a], x ∈ s ++ [a] :=
  forall_mem_snoc.mpr ⟨fun x hx => List.mem_append_left _ (h x hx), List.mem_append_right _ (List.mem_singleton_self a)⟩

theorem keys_snoc (l : List (α × β)) (k : α) (v : β) : (l ++ [(k, v)]).map (·.1) = l.map (·.1) ++ [k] := by
  rw [List.map_append]; rfl

theorem pairwise_snoc {R : α → α → Prop} {l : List α} {a : α} (h : l.Pairwise R) (ha : ∀ x ∈ l, R x a) :
    (l ++ [a]).Pairwise R :=
  List.pairwise_append.mpr ⟨h, List.pairwise_singleton _ _, fun x hx _ hy => List.mem_singleton.mp hy ▸ ha x hx⟩

theorem nodup_snoc {l : List α} {a : α} (h : l.Nodup) (ha : a ∉ l) : (l ++ [a]).Nodup :=
  pairwise_snoc h fun _ hx e => ha (e ▸ hx)

end snoc

section lookup
variable {κ : Type u} [BEq κ] [LawfulBEq κ] {α : Type v}

theorem lookup_cons_ne (k n : κ) (v : α) (l : List (κ × α)) (h : n ≠ k) : ((k, v) :: l).lookup n = l.lookup n := by
  rw [List.lookup_cons, beq_false_of_ne h]

/-- `List.lookup` tests with `==`, the `if` of a model function with the type's `DecidableEq`: the instance is a
parameter so that the statement matches whichever one the caller's `if` carries -/
theorem lookup_cons_if [DecidableEq κ] (a : κ) (b : α) (l : List (κ × α)) (k : κ) :
    ((a, b) :: l).lookup k = if k = a then some b else l.lookup k := by
  rw [List.lookup_cons]
  by_cases e : k = a
  · rw [if_pos e, beq_iff_eq.mpr e]
  · rw [if_neg e, beq_false_of_ne e]

omit [LawfulBEq κ] in
theorem lookup_isSome_eq (l : List (κ × α)) (k : κ) : (l.lookup k).isSome = (l.map (·.1)).contains k := by
  induction l with
  | nil => rfl
  | cons a as ih =>
    obtain ⟨a1, a2⟩ := a
    rw [List.lookup_cons, List.map_cons, List.contains_cons]
    cases k == a1
    · exact ih
    · rfl

theorem lookup_isSome_iff (l : List (κ × α)) (k : κ) : (l.lookup k).isSome = true ↔ k ∈ l.map (·.1) := by
  rw [lookup_isSome_eq, List.contains_iff_mem]

theorem lookup_eq_none (l : List (κ × α)) (k : κ) (h : k ∉ l.map (·.1)) : l.lookup k = none :=
  Option.not_isSome_iff_eq_none.mp fun h' => h ((lookup_isSome_iff l k).mp h')

theorem lookup_some_of_mem (l : List (κ × α)) (k : κ) (h : k ∈ l.map (·.1)) : ∃ v, l.lookup k = some v :=
  Option.isSome_iff_exists.mp ((lookup_isSome_iff l k).mpr h)

theorem lookup_mem (l : List (κ × α)) (k : κ) (v : α) (h : l.lookup k = some v) : (k, v) ∈ l := by
  obtain ⟨l₁, l₂, rfl, _⟩ := List.lookup_eq_some_iff.mp h
  exact List.mem_append_right _ List.mem_cons_self

theorem lookup_of_mem (l : List (κ × α)) (hnd : (l.map (·.1)).Nodup) (kv : κ × α) (h : kv ∈ l) : l.lookup kv.1 = some kv.2 := by
  induction l with
  | nil => cases h
  | cons a as ih =>
    obtain ⟨a1, a2⟩ := a
    rw [List.map_cons, List.nodup_cons] at hnd
    rcases List.mem_cons.mp h with rfl | h
    · exact List.lookup_cons_self
    · rw [lookup_cons_ne _ _ _ _ fun (e : kv.1 = a1) => hnd.1 (e ▸ List.mem_map_of_mem (f := (·.1)) h)]
      exact ih hnd.2 h

theorem lookup_map_val {γ : Type w} (l : List (κ × α)) (h : κ → α → γ) (k : κ) :
    (l.map fun nc => (nc.1, h nc.1 nc.2)).lookup k = (l.lookup k).map (h k) := by
  induction l with
  | nil => rfl
  | cons a as ih =>
    obtain ⟨n, c⟩ := a
    rw [List.map_cons, List.lookup_cons, List.lookup_cons]
    cases e : k == n
    · exact ih
    · rw [eq_of_beq e]; rfl

theorem lookup_map_find {γ : Type w} (l : List γ) (key : γ → κ) (val : γ → α) (n : κ) :
    (l.map fun a => (key a, val a)).lookup n = (l.find? fun a => key a == n).map val := by
  induction l with
  | nil => rfl
  | cons a as ih =>
    rw [List.map_cons, List.lookup_cons, List.find?_cons, BEq.comm (a := key a)]
    cases n == key a
    · exact ih
    · rfl

end lookup

/-! ### folding an insertion over a list -/

theorem foldl_perm_of_insert {α} (ins : α → List α → List α) (h : ∀ x l, (ins x l).Perm (x :: l)) (xs acc : List α) :
    (xs.foldl (fun acc x => ins x acc) acc).Perm (xs ++ acc) := by
  induction xs generalizing acc with
  | nil => exact List.Perm.refl _
  | cons x xs ih =>
    rw [List.foldl_cons]
    exact (ih (ins x acc)).trans (((h x acc).append_left xs).trans List.perm_middle)

/-! ### folding a partial insertion over a list (`none`: the step failed): permutation, sortedness, definedness -/

theorem foldl_bind_none {α β} (f : β → α → Option β) (xs : List α) :
    xs.foldl (fun acc x => acc.bind (f · x)) none = none := by
  induction xs with
  | nil => rfl
  | cons x xs ih => exact ih

/-- an invariant that may mention what is still to be consumed -/
theorem foldl_bind_inv {α β} (f : β → α → Option β) (I : β → List α → Prop)
    (step : ∀ acc x rest acc', I acc (x :: rest) → f acc x = some acc' → I acc' rest) :
    ∀ (xs : List α) (acc s : β), I acc xs → xs.foldl (fun acc x => acc.bind (f · x)) (some acc) = some s → I s []
  | [], acc, s, hI, h => by cases h; exact hI
  | x :: xs, acc, s, hI, h => by
    rw [List.foldl_cons, Option.bind_some] at h
    cases hf : f acc x with
    | none => rw [hf, foldl_bind_none] at h; cases h
    | some acc' => rw [hf] at h; exact foldl_bind_inv f I step xs acc' s (step _ _ _ _ hI hf) h

section insertion
variable {α : Type} (f : List α → α → Option (List α))
  (hperm : ∀ acc x acc', f acc x = some acc' → acc'.Perm (x :: acc))
include hperm

theorem foldl_insert_perm (xs acc s : List α)
    (h : xs.foldl (fun acc x => acc.bind (f · x)) (some acc) = some s) : s.Perm (acc ++ xs) := by
  have := foldl_bind_inv f (fun a rest => (a ++ rest).Perm (acc ++ xs))
    (fun a x rest a' hI hf =>
      ((hperm _ _ _ hf).append_right rest).trans (List.perm_middle.symm.trans hI)) xs acc s (List.Perm.refl _) h
  rwa [List.append_nil] at this

theorem foldl_insert_pairwise {P : α → Prop} {R : α → α → Prop}
    (hstep : ∀ acc x acc', (∀ a ∈ acc, P a) → P x → acc.Pairwise R → f acc x = some acc' → acc'.Pairwise R)
    (xs acc s : List α) (hxs : ∀ a ∈ xs, P a) (hacc : ∀ a ∈ acc, P a) (hs : acc.Pairwise R)
    (h : xs.foldl (fun acc x => acc.bind (f · x)) (some acc) = some s) : s.Pairwise R := by
  refine (foldl_bind_inv f (fun acc rest => (∀ a ∈ acc, P a) ∧ (∀ a ∈ rest, P a) ∧ acc.Pairwise R)
    (fun acc x rest acc' hI hf => ⟨?_, fun a ha => hI.2.1 a (List.mem_cons_of_mem _ ha), ?_⟩) xs acc s ⟨hacc, hxs, hs⟩ h).2.2
  · intro a ha
    rcases List.mem_cons.mp ((hperm _ _ _ hf).mem_iff.mp ha) with rfl | ha
    · exact hI.2.1 a List.mem_cons_self
    · exact hI.1 a ha
  · exact hstep _ _ _ hI.1 (hI.2.1 x List.mem_cons_self) hI.2.2 hf

theorem foldl_insert_some {Q : α → Prop} (hdef : ∀ acc x, (∀ a ∈ acc, Q a) → Q x → ∃ acc', f acc x = some acc') :
    ∀ (xs acc : List α), (∀ a ∈ xs, Q a) → (∀ a ∈ acc, Q a) →
      ∃ s, xs.foldl (fun acc x => acc.bind (f · x)) (some acc) = some s
  | [], acc, _, _ => ⟨acc, rfl⟩
  | x :: xs, acc, hxs, hacc => by
    obtain ⟨acc', hf⟩ := hdef acc x hacc (hxs x List.mem_cons_self)
    rw [List.foldl_cons, Option.bind_some, hf]
    refine foldl_insert_some hdef xs acc' (fun a ha => hxs a (List.mem_cons_of_mem _ ha)) fun a ha => ?_
    rcases List.mem_cons.mp ((hperm _ _ _ hf).mem_iff.mp ha) with rfl | ha
    · exact hxs a List.mem_cons_self
    · exact hacc a ha

end insertion

/-! ### a relation along a sorted list -/

theorem rel_of_head {α} {P : α → Prop} {R : α → α → Prop}
    (htr : ∀ x y z, P x → P y → P z → R x y → R y z → R x z) {x y : α} {l : List α} (hx : P x)
    (hl : ∀ a ∈ y :: l, P a) (hxy : R x y) (hs : (y :: l).Pairwise R) : ∀ z ∈ y :: l, R x z := by
  intro z hz
  rcases List.mem_cons.mp hz with rfl | hz'
  · exact hxy
  · exact htr x y z hx (hl y List.mem_cons_self) (hl z hz) hxy ((List.pairwise_cons.mp hs).1 z hz')

theorem rel_getLast {α} {R : α → α → Prop} {s : List α} {m : α} (hs : s.Pairwise R) (hm : s.getLast? = some m)
    (hr : R m m) : ∀ a ∈ s, R a m := by
  obtain ⟨init, rfl⟩ := List.getLast?_eq_some_iff.mp hm
  intro a ha
  rcases List.mem_append.mp ha with h | h
  · exact (List.pairwise_append.mp hs).2.2 a h m (List.mem_singleton_self m)
  · cases List.mem_singleton.mp h
    exact hr

theorem eq_of_key_eq {α β} {g : α → β} {l : List α} (hnd : (l.map g).Nodup) {a b : α} (ha : a ∈ l) (hb : b ∈ l)
    (h : g a = g b) : a = b := by
  induction l with
  | nil => cases ha
  | cons x xs ih =>
    rw [List.map_cons, List.nodup_cons] at hnd
    rcases List.mem_cons.mp ha with rfl | ha' <;> rcases List.mem_cons.mp hb with rfl | hb'
    · rfl
    · exact absurd (List.mem_map.mpr ⟨b, hb', h.symm⟩) hnd.1
    · exact absurd (List.mem_map.mpr ⟨a, ha', h⟩) hnd.1
    · exact ih hnd.2 ha' hb'

/-! ### `filterMap`, `findSome?`, last elements -/

theorem filterMap_congr {α β} (l : List α) (f g : α → Option β) (h : ∀ x ∈ l, f x = g x) : l.filterMap f = l.filterMap g := by
  induction l with
  | nil => rfl
  | cons a as ih =>
    simp only [List.filterMap_cons, h a (by simp), ih (fun x hx => h x (by simp [hx]))]

theorem filterMap_map_sublist {α β γ} (f : α → Option β) (g : β → γ) (h : α → γ) (l : List α)
    (hfg : ∀ x ∈ l, ∀ y, f x = some y → g y = h x) : ((l.filterMap f).map g).Sublist (l.map h) := by
  induction l with
  | nil => exact .slnil
  | cons x xs ih =>
    have ih := ih fun x hx => hfg x (List.mem_cons_of_mem _ hx)
    rw [List.filterMap_cons]
    cases hfx : f x with
    | none => exact ih.cons _
    | some y => rw [List.map_cons, List.map_cons, hfg x List.mem_cons_self y hfx]; exact ih.cons_cons _

theorem getLast_cons_map {α β} (x : β) (g : α → β) (ls : List α) (l : β) (hl : l ∈ (x :: ls.map g).getLast?) :
    (ls = [] ∧ l = x) ∨ ∃ u, ls.getLast? = some u ∧ l = g u := by
  cases ls with
  | nil => exact Or.inl ⟨rfl, (Option.some.inj hl).symm⟩
  | cons t ts =>
    rw [List.map_cons, List.getLast?_cons_cons, ← List.map_cons, List.getLast?_map] at hl
    obtain ⟨u, hu, e⟩ := Option.map_eq_some_iff.mp hl
    exact Or.inr ⟨u, hu, e.symm⟩

theorem findSome_rev_range {α} (f : Nat → Option α) (n e0 : Nat) (v : α) (h0 : e0 < n) (hv : f e0 = some v)
    (hlater : ∀ e, e0 < e → e < n → f e = none) : (List.range n).reverse.findSome? f = some v := by
  induction n with
  | zero => omega
  | succ k ih =>
    rw [List.range_succ, List.reverse_append]
    simp only [List.reverse_cons, List.reverse_nil, List.nil_append, List.cons_append, List.findSome?_cons]
    by_cases hk : e0 = k
    · subst hk; rw [hv]
    · rw [hlater k (by omega) (by omega)]
      exact ih (by omega) (fun e h1 h2 => hlater e h1 (by omega))

theorem findSome_unique {α β} (l : List α) (f : α → Option β) (x : α) (hx : x ∈ l)
    (hall : ∀ y ∈ l, (f y).isSome → y = x) : l.findSome? f = f x := by
  induction l with
  | nil => cases hx
  | cons a as ih =>
    rw [List.findSome?_cons]
    cases hfa : f a with
    | some v => rw [← hall a List.mem_cons_self (by rw [hfa]; rfl), hfa]
    | none =>
      rcases List.mem_cons.mp hx with rfl | hx'
      · simp only [hfa]
        cases hs : as.findSome? f with
        | none => rfl
        | some v =>
          obtain ⟨y, hy, hfy⟩ := List.exists_of_findSome?_eq_some hs
          rw [hall y (List.mem_cons_of_mem _ hy) (by rw [hfy]; rfl), hfa] at hfy
          cases hfy
      · exact ih hx' fun y hy => hall y (List.mem_cons_of_mem _ hy)

theorem isEmpty_eq_of_length_eq {α β} {l : List α} {l' : List β} (h : l.length = l'.length) : l.isEmpty = l'.isEmpty := by
  cases l <;> cases l' <;> first | rfl | cases h

/-! ### `mapM` into `Except` -/

theorem mapM_ok_of {ε α β} (f : α → Except ε β) (g : α → β) (l : List α) (h : ∀ a ∈ l, f a = .ok (g a)) :
    l.mapM f = .ok (l.map g) := by
  induction l with
  | nil => rfl
  | cons a as ih =>
    rw [List.forall_mem_cons] at h
    rw [List.mapM_cons, h.1, ih h.2]
    rfl

theorem mapM_ok_facts {ε α β} {f : α → Except ε β} {l : List α} {ps : List β} (h : l.mapM f = .ok ps) :
    ps.length = l.length ∧ ∀ b ∈ ps, ∃ a ∈ l, f a = .ok b := by
  induction l generalizing ps with
  | nil => rw [List.mapM_nil] at h; cases h; exact ⟨rfl, fun _ hb => nomatch hb⟩
  | cons a as ih =>
    rw [List.mapM_cons] at h
    cases hfa : f a with
    | error e => rw [hfa] at h; cases h
    | ok b =>
      cases hm : as.mapM f with
      | error e => rw [hfa, hm] at h; cases h
      | ok bs =>
        rw [hfa, hm] at h
        cases h
        obtain ⟨hl, hmem⟩ := ih hm
        refine ⟨congrArg (· + 1) hl, fun b' hb' => ?_⟩
        rcases List.mem_cons.mp hb' with rfl | hb'
        · exact ⟨a, List.mem_cons_self, hfa⟩
        · obtain ⟨a', ha', h'⟩ := hmem b' hb'
          exact ⟨a', List.mem_cons_of_mem _ ha', h'⟩

theorem zip_mapM {ε α β γ} (ps : List α) (F : α → β) (f : α × β → Except ε γ) :
    (ps.zip (ps.map F)).mapM f = ps.mapM fun a => f (a, F a) := by
  induction ps with
  | nil => rfl
  | cons a as ih => simp only [List.map_cons, List.zip_cons_cons, List.mapM_cons, ih]

end Proofs.Assoc
