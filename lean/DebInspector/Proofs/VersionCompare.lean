/-
`Model.Version.compareStrings` computes `Spec.VerOrder.cmpStr` for the implementation's rank table
(on strings whose characters are ASCII digits or have a rank).
-/
import DebInspector.Model.Version
import DebInspector.Spec.Dpkg
import DebInspector.Spec.VerOrder
import DebInspector.Proofs.StrLemmas

namespace Proofs.VersionCompare
open Py Spec Spec.VerOrder PadLex Model.Version

/-- the implementation's rank as a total function (`none` = end of run = `''`) -/
def modelRk (c : Option Char) : Int := (rankOf c).getD 0

/-- what the proofs need from the generated rank table and the Unicode digit table (`Tie.VersionTables.tableOK`) -/
structure TableOK : Prop where
  endRank : (rankOf none).isSome = true
  charRank : ∀ c, Policy.upChar c = true → c.isDigit = false → (rankOf (some c)).isSome = true
  digitU : ∀ c, Policy.upChar c = true → isDigitU c = c.isDigit

/-- what `lexPairs` answers for a comparison: `None` when it found no difference -/
def ordOpt : Ordering → Option Int
  | .lt => some (-1)
  | .eq => none
  | .gt => some 1

theorem spanNonDigit_cons_digit {c : Char} (cs : Str) (h : c.isDigit = true) :
    spanNonDigit (c :: cs) = ([], c :: cs) := by
  rw [spanNonDigit, if_pos h]

theorem spanNonDigit_cons_nondigit {c : Char} (cs : Str) (h : c.isDigit = false) :
    spanNonDigit (c :: cs) = (c :: (spanNonDigit cs).1, (spanNonDigit cs).2) := by
  rw [spanNonDigit, if_neg (by rw [h]; decide)]

theorem spanDigits_cons_digit {c : Char} (cs : Str) (h : c.isDigit = true) :
    spanDigits (c :: cs) = (c :: (spanDigits cs).1, (spanDigits cs).2) := by
  rw [spanDigits, if_pos h]

theorem spanDigits_cons_nondigit {c : Char} (cs : Str) (h : c.isDigit = false) :
    spanDigits (c :: cs) = ([], c :: cs) := by
  rw [spanDigits, if_neg (by rw [h]; decide)]

theorem spanNonDigit_all (s : Str) (P : Char → Bool) (h : s.all P = true) :
    (spanNonDigit s).1.all P = true ∧ (spanNonDigit s).2.all P = true := by
  induction s with
  | nil => exact ⟨rfl, rfl⟩
  | cons c cs ih =>
    rw [List.all_cons, Bool.and_eq_true] at h
    rw [spanNonDigit]
    split
    · exact ⟨rfl, by rw [List.all_cons, h.1, h.2]; rfl⟩
    · exact ⟨by rw [List.all_cons, h.1, (ih h.2).1]; rfl, (ih h.2).2⟩

theorem spanDigits_all (s : Str) (P : Char → Bool) (h : s.all P = true) :
    (spanDigits s).1.all P = true ∧ (spanDigits s).2.all P = true := by
  induction s with
  | nil => exact ⟨rfl, rfl⟩
  | cons c cs ih =>
    rw [List.all_cons, Bool.and_eq_true] at h
    rw [spanDigits]
    split
    · exact ⟨by rw [List.all_cons, h.1, (ih h.2).1]; rfl, (ih h.2).2⟩
    · exact ⟨rfl, by rw [List.all_cons, h.1, h.2]; rfl⟩

theorem spanNonDigit_nondigit (s : Str) : (spanNonDigit s).1.all (fun c => !c.isDigit) = true := by
  induction s with
  | nil => rfl
  | cons c cs ih =>
    rw [spanNonDigit]
    split
    · rfl
    · rename_i h; simp [h, ih]

theorem afterTok_all (s : Str) (h : s.all Policy.upChar = true) : (afterTok s).all Policy.upChar = true :=
  (spanDigits_all _ _ (spanNonDigit_all s _ h).2).2

theorem firstTok_nil : firstTok [] = ([], 0) := rfl
theorem afterTok_nil : afterTok [] = [] := rfl

theorem ite_compare {α} (a b : Int) (x y z : α) :
    (if a < b then x else if a > b then y else z) =
      match compare a b with | .lt => x | .gt => y | .eq => z := by
  rw [Int.compare_eq_ite_lt]
  by_cases h1 : a < b
  · rw [if_pos h1, if_pos h1]
  · rw [if_neg h1, if_neg h1]
    by_cases h2 : b < a
    · rw [if_pos h2, if_pos h2]
    · rw [if_neg h2, if_neg h2]

theorem ite_cmpNat {α} (a b : Nat) (x y z : α) :
    (if a < b then x else if a > b then y else z) =
      match cmpNat a b with | .lt => x | .gt => y | .eq => z := by
  rw [cmpNat, ← ite_compare]; simp only [Int.ofNat_lt, gt_iff_lt]

theorem cmpNat_of_lt {a b : Nat} (h : a < b) : cmpNat a b = .lt := Int.compare_eq_lt.mpr (Int.ofNat_lt.mpr h)
theorem cmpNat_of_gt {a b : Nat} (h : b < a) : cmpNat a b = .gt := Int.compare_eq_gt.mpr (Int.ofNat_lt.mpr h)
theorem cmpNat_self (a : Nat) : cmpNat a a = .eq := Int.compare_eq_eq.mpr rfl

/-! ### the padded comparison of two runs, one character at a time -/

theorem cmpRun_nil_nil (rk : Option Char → Int) : cmpRun rk [] [] = .eq := by
  rw [cmpRun, List.map_nil, cmpPad]

theorem cmpRun_cons_nil (rk : Option Char → Int) (c : Char) (p : Str) :
    cmpRun rk (c :: p) [] = (cmpRk rk (some c) none).then (cmpRun rk p []) := by
  rw [cmpRun, List.map_cons, List.map_nil, cmpPad]; rfl

theorem cmpRun_nil_cons (rk : Option Char → Int) (d : Char) (q : Str) :
    cmpRun rk [] (d :: q) = (cmpRk rk none (some d)).then (cmpRun rk [] q) := by
  rw [cmpRun, List.map_cons, List.map_nil, cmpPad]; rfl

theorem cmpRun_cons_cons (rk : Option Char → Int) (c d : Char) (p q : Str) :
    cmpRun rk (c :: p) (d :: q) = (cmpRk rk (some c) (some d)).then (cmpRun rk p q) := by
  rw [cmpRun, List.map_cons, List.map_cons, cmpPad]; rfl

/-- the form a loop over two pointers sees: the characters under the pointers (`none` at the end of a run) -/
theorem cmpRun_head_tail (rk : Option Char → Int) (p q : Str) :
    cmpRun rk p q = (cmpRk rk p.head? q.head?).then (cmpRun rk p.tail q.tail) := by
  cases p <;> cases q
  · rw [List.head?_nil, (cmpRk_pre rk).refl]; rfl
  · exact cmpRun_nil_cons rk _ _
  · exact cmpRun_cons_nil rk _ _
  · exact cmpRun_cons_cons rk _ _ _ _

theorem cmpStr_nil_nil (rk : Option Char → Int) : cmpStr rk [] [] = .eq := by
  rw [cmpStr, tokens_nil, cmpPad]

theorem cmpStr_unfold (rk : Option Char → Int) (v1 v2 : Str) (h : ¬ (v1 = [] ∧ v2 = [])) :
    cmpStr rk v1 v2 = (cmpTok rk (firstTok v1) (firstTok v2)).then (cmpStr rk (afterTok v1) (afterTok v2)) := by
  unfold cmpStr
  by_cases e1 : v1 = []
  · subst e1
    have e2 : v2 ≠ [] := fun e2 => h ⟨rfl, e2⟩
    rw [tokens_cons v2 e2, afterTok_nil, tokens_nil, cmpPad]; rfl
  · rw [tokens_cons v1 e1]
    by_cases e2 : v2 = []
    · subst e2
      rw [afterTok_nil, tokens_nil, cmpPad]; rfl
    · rw [tokens_cons v2 e2, cmpPad]

theorem not_both_isEmpty {v1 v2 : Str} (h : ¬ (v1 = [] ∧ v2 = [])) : (v1.isEmpty && v2.isEmpty) = false := by
  cases v1 <;> cases v2 <;> first | rfl | exact absurd ⟨rfl, rfl⟩ h

theorem afterTok_fuel {v1 v2 : Str} (h : ¬ (v1 = [] ∧ v2 = [])) {n : Nat} (hn : v1.length + v2.length ≤ n + 1) :
    (afterTok v1).length + (afterTok v2).length ≤ n := by
  have l1 : (afterTok v1).length ≤ v1.length := Nat.le_trans (spanDigits_len _) (spanNonDigit_len _)
  have l2 : (afterTok v2).length ≤ v2.length := Nat.le_trans (spanDigits_len _) (spanNonDigit_len _)
  by_cases e : v1 = []
  · have := afterTok_lt v2 fun e2 => h ⟨e, e2⟩
    omega
  · have := afterTok_lt v1 e
    omega

variable (T : TableOK)
include T

theorem getNonDigitPrefix_eq (s : Str) (h : s.all Policy.upChar = true) :
    getNonDigitPrefix s = spanNonDigit s := by
  induction s with
  | nil => rfl
  | cons c cs ih =>
    simp only [List.all_cons, Bool.and_eq_true] at h
    simp only [getNonDigitPrefix, spanNonDigit, isDigitCh, T.digitU c h.1, ih h.2]

theorem getDigitPrefixAux_eq (s : Str) (h : s.all Policy.upChar = true) (v : Nat) :
    getDigitPrefixAux v s = .ok (Nat.ofDigitChars 10 (spanDigits s).1 v, (spanDigits s).2) := by
  induction s generalizing v with
  | nil => rfl
  | cons c cs ih =>
    simp only [List.all_cons, Bool.and_eq_true] at h
    simp only [getDigitPrefixAux, spanDigits, isDigitCh, T.digitU c h.1]
    split
    · rw [ih h.2, Nat.ofDigitChars_cons, Nat.mul_comm]; rfl
    · rfl

theorem getDigitPrefix_eq (s : Str) (h : s.all Policy.upChar = true) :
    getDigitPrefix s = .ok (digitsVal (spanDigits s).1, (spanDigits s).2) :=
  getDigitPrefixAux_eq T s h 0

omit T in
theorem lexPairs_cons {a b : Option Char} (ha : (rankOf a).isSome = true) (hb : (rankOf b).isSome = true)
    {rest : List (Option Char × Option Char)} {r : Ordering} (ih : lexPairs rest = .ok (ordOpt r)) :
    lexPairs ((a, b) :: rest) = .ok (ordOpt ((cmpRk modelRk a b).then r)) := by
  obtain ⟨x, hx⟩ := Option.isSome_iff_exists.mp ha
  obtain ⟨y, hy⟩ := Option.isSome_iff_exists.mp hb
  simp only [lexPairs, hx, hy, ih, ite_compare, cmpRk, modelRk, Option.getD_some]
  cases compare x y <;> rfl

theorem lexPairs_eq (p q : Str)
    (hp : ∀ c ∈ p, (rankOf (some c)).isSome = true) (hq : ∀ c ∈ q, (rankOf (some c)).isSome = true) :
    lexPairs (zipLongest p q) = .ok (ordOpt (cmpRun modelRk p q)) := by
  induction p generalizing q with
  | nil =>
    induction q with
    | nil => rw [cmpRun_nil_nil]; rfl
    | cons b bs ih =>
      rw [List.forall_mem_cons] at hq
      rw [cmpRun_nil_cons]
      exact lexPairs_cons T.endRank hq.1 (ih hq.2)
  | cons a as ih =>
    rw [List.forall_mem_cons] at hp
    cases q with
    | nil =>
      rw [zipLongest, cmpRun_cons_nil]
      exact lexPairs_cons hp.1 T.endRank (ih [] hp.2 hq)
    | cons b bs =>
      rw [List.forall_mem_cons] at hq
      rw [zipLongest, cmpRun_cons_cons]
      exact lexPairs_cons hp.1 hq.1 (ih bs hp.2 hq.2)

omit T in
theorem mem_spanNonDigit {s : Str} {P : Char → Bool} (h : s.all P = true) {c : Char}
    (hc : c ∈ (spanNonDigit s).1) : P c = true ∧ c.isDigit = false :=
  ⟨List.all_eq_true.mp (spanNonDigit_all s P h).1 c hc,
   by simpa using List.all_eq_true.mp (spanNonDigit_nondigit s) c hc⟩

/-- what `cmpStep` answers when the first tokens compare as `o`: a decision, or the two rests `w` to go on with -/
def stepOutcome (o : Ordering) (w : Str × Str) : Int ⊕ (Str × Str) :=
  match o with
  | .lt => .inl (-1)
  | .gt => .inl 1
  | .eq => .inr w

theorem cmpStep_eq (v1 v2 : Str) (h1 : v1.all Policy.upChar = true) (h2 : v2.all Policy.upChar = true) :
    cmpStep v1 v2 = .ok (stepOutcome (cmpTok modelRk (firstTok v1) (firstTok v2)) (afterTok v1, afterTok v2)) := by
  have hr (v : Str) (h : v.all Policy.upChar = true) : ∀ c ∈ (spanNonDigit v).1, (rankOf (some c)).isSome = true :=
    fun c hc => T.charRank c (mem_spanNonDigit h hc).1 (mem_spanNonDigit h hc).2
  have hlex : (if (spanNonDigit v1).1 ≠ (spanNonDigit v2).1 then lexLoop (spanNonDigit v1).1 (spanNonDigit v2).1 else .ok none)
      = .ok (ordOpt (cmpRun modelRk (spanNonDigit v1).1 (spanNonDigit v2).1)) := by
    split
    · exact lexPairs_eq T _ _ (hr v1 h1) (hr v2 h2)
    · rename_i he
      rw [Decidable.not_not.mp he, (cmpRun_pre modelRk).refl]; rfl
  simp only [cmpStep, getNonDigitPrefix_eq T v1 h1, getNonDigitPrefix_eq T v2 h2, hlex,
    getDigitPrefix_eq T _ (spanNonDigit_all v1 _ h1).2, getDigitPrefix_eq T _ (spanNonDigit_all v2 _ h2).2,
    cmpTok, cmpProd, firstTok, afterTok]
  cases cmpRun modelRk (spanNonDigit v1).1 (spanNonDigit v2).1 with
  | lt => rfl
  | gt => rfl
  | eq =>
    simp only [ordOpt, ite_cmpNat]
    cases cmpNat (digitsVal (spanDigits (spanNonDigit v1).2).1) (digitsVal (spanDigits (spanNonDigit v2).2).1) <;> rfl

omit T in
theorem compareStringsFuel_nil (n : Nat) : compareStringsFuel n [] [] = .ok 0 := by cases n <;> rfl

theorem compareStringsFuel_eq (n : Nat) (v1 v2 : Str)
    (h1 : v1.all Policy.upChar = true) (h2 : v2.all Policy.upChar = true)
    (hn : v1.length + v2.length ≤ n) :
    compareStringsFuel n v1 v2 = .ok (ordInt (cmpStr modelRk v1 v2)) := by
  induction n generalizing v1 v2 with
  | zero =>
    obtain ⟨e1, e2⟩ := Nat.add_eq_zero_iff.mp (Nat.le_zero.mp hn)
    rw [List.eq_nil_of_length_eq_zero e1, List.eq_nil_of_length_eq_zero e2, cmpStr_nil_nil]; rfl
  | succ n ih =>
    by_cases hb : v1 = [] ∧ v2 = []
    · rw [hb.1, hb.2, compareStringsFuel_nil, cmpStr_nil_nil]; rfl
    · rw [compareStringsFuel, not_both_isEmpty hb, cmpStep_eq T v1 v2 h1 h2, cmpStr_unfold modelRk v1 v2 hb]
      cases cmpTok modelRk (firstTok v1) (firstTok v2) with
      | lt => rfl
      | gt => rfl
      | eq => exact ih _ _ (afterTok_all v1 h1) (afterTok_all v2 h2) (afterTok_fuel hb hn)

theorem compareStrings_eq (v1 v2 : Str)
    (h1 : v1.all Policy.upChar = true) (h2 : v2.all Policy.upChar = true) :
    compareStrings v1 v2 = .ok (ordInt (cmpStr modelRk v1 v2)) :=
  compareStringsFuel_eq T _ v1 v2 h1 h2 (Nat.le_refl _)

end Proofs.VersionCompare
