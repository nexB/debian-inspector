/-
The converters of the copyright fields keep the words of a value: parsing a value into its typed form and rendering the
typed form back (`words_dumps_fromValue`), and each step on the way (continuation-line codec, statements, license).
-/
import DebInspector.Proofs.Words
import DebInspector.Model.Copyright

namespace Proofs.WordsConv
open Py Spec.Words Proofs.Words Proofs.Splitlines Model.Debcon Model.Copyright

/-! ## every converter keeps the words of its value -/

theorem words_asFormattedLines (ls : List Str) : words (asFormattedLines ls) = ls.flatMap words := by
  rw [asFormattedLines, words_joinNlSp, List.flatMap_map]
  refine flatMap_congr fun l _ => ?_
  unfold encLine
  split
  · rename_i hb; rw [words_blank l hb]; rfl
  · rfl

theorem words_asFormattedText (t : Str) : words (asFormattedText t) = words t :=
  words_ite rfl ((words_asFormattedLines _).trans (words_splitlines t))

theorem words_tail_of_startsWith (l : Str) (c : Char) (pre : Str) (hc : isSpace c = true)
    (h : startsWith l (c :: pre) = true) : words l.tail = words l := by
  cases l with
  | nil => cases h
  | cons d ds =>
    rw [startsWith, Bool.and_eq_true, beq_iff_eq] at h
    rw [h.1, List.tail_cons, words_cons_space c ds hc]

theorem words_decLine (l : Str) : words (decLine l) = words l := by
  rw [← words_rstrip l]
  unfold decLine
  simp only
  split
  · rename_i h; exact words_tail_of_startsWith _ ' ' _ (by decide) h
  · split
    · -- the paragraph separator ` .` decodes to an empty line: a lone full stop is not a word
      rename_i h; rw [h]; decide
    · split
      · rename_i h; exact words_tail_of_startsWith _ ' ' _ (by decide) h
      · exact words_strip _

theorem words_fromFormattedLines (ls : List Str) : words (fromFormattedLines ls) = ls.flatMap words := by
  cases ls with
  | nil => rfl
  | cons l rest =>
    rw [fromFormattedLines, words_joinNl, List.flatMap_cons, List.flatMap_cons, words_strip, List.flatMap_map]
    exact congrArg _ (flatMap_congr fun r _ => words_decLine r)

theorem words_lineSeparated (v : Str) : (lineSeparated v).flatMap words = words v := by
  unfold lineSeparated
  split
  · rename_i h; rw [List.isEmpty_iff.mp h]; rfl
  · exact words_splitlines v

theorem words_fromFormattedText (t : Str) : words (fromFormattedText t) = words t :=
  words_ite rfl ((words_fromFormattedLines _).trans (words_lineSeparated t))

/-! ### tokens -/

theorem reverse_token {cur : Str} (hcur : ∀ c ∈ cur, isSpace c = false) (h : cur.isEmpty = false) :
    cur.reverse ≠ [] ∧ ∀ c ∈ cur.reverse, isSpace c = false :=
  ⟨fun e => (List.isEmpty_eq_false_iff.mp h) (List.reverse_eq_nil_iff.mp e), fun c hc => hcur c (List.mem_reverse.mp hc)⟩

theorem splitWsAux_tokens (s cur : Str) (hcur : ∀ c ∈ cur, isSpace c = false) :
    ∀ w ∈ splitWsAux s cur, w ≠ [] ∧ ∀ c ∈ w, isSpace c = false := by
  induction s generalizing cur with
  | nil =>
    rw [splitWsAux]
    cases h : cur.isEmpty with
    | true => exact nofun
    | false => exact List.forall_mem_singleton.mpr (reverse_token hcur h)
  | cons x xs ih =>
    rw [splitWsAux]
    cases hx : isSpace x with
    | false => exact ih (x :: cur) (List.forall_mem_cons.mpr ⟨hx, hcur⟩)
    | true =>
      cases h : cur.isEmpty with
      | true => exact ih [] nofun
      | false => exact List.forall_mem_cons.mpr ⟨reverse_token hcur h, ih [] nofun⟩

theorem splitWs_tokens (s : Str) : ∀ w ∈ splitWs s, w ≠ [] ∧ ∀ c ∈ w, isSpace c = false :=
  splitWsAux_tokens s [] nofun

theorem splitWs_token (w : Str) (hne : w ≠ []) (h : ∀ c ∈ w, isSpace c = false) : splitWs w = [w] := by
  have := splitWs_join [w] (by intro x hx; simp at hx; subst hx; exact ⟨hne, h⟩)
  simpa [join] using this

theorem flatMap_splitWs_tokens (ws : List Str) (h : ∀ w ∈ ws, w ≠ [] ∧ ∀ c ∈ w, isSpace c = false) :
    ws.flatMap splitWs = ws := by
  induction ws with
  | nil => rfl
  | cons w ws ih =>
    simp only [List.flatMap_cons, splitWs_token w (h w (by simp)).1 (h w (by simp)).2,
      ih (fun x hx => h x (by simp [hx]))]
    rfl

theorem flatMap_words_tokens (ws : List Str) (h : ∀ w ∈ ws, w ≠ [] ∧ ∀ c ∈ w, isSpace c = false) :
    ws.flatMap words = ws.filter (· ≠ ['.']) := by
  rw [flatMap_words_eq, flatMap_splitWs_tokens ws h]

theorem words_join_space (ws : List Str) : words (join [' '] ws) = ws.flatMap words :=
  words_join_sep [' '] (List.cons_ne_nil _ _) (List.forall_mem_singleton.mpr sp_space) ws

theorem words_join_splitWs (v : Str) : words (join [' '] (splitWs v)) = words v := by
  rw [words_join_space, flatMap_words_tokens _ (splitWs_tokens v)]
  rfl

/-! ### copyright statements -/

theorem words_statementDumps_some (y h : Str) (hy : isYearRange y = true) :
    words (statementDumps (some y, h)) = words y ++ words h := by
  have hne : y.isEmpty = false := by
    simp only [isYearRange, Bool.and_eq_true, Bool.not_eq_true'] at hy
    exact hy.1
  simp only [statementDumps, hne, Bool.false_eq_true, if_false]
  rw [words_strip, words_space y h ' ' sp_space]

theorem words_statement (v : Str) : words (statementDumps (statementFromValue v)) = words v := by
  rw [← words_join_splitWs v]
  unfold statementFromValue
  simp only
  generalize join [' '] (splitWs v) = t
  rcases split_first ' ' t with h | ⟨a, b, rfl, ha⟩
  · rw [partitionChar_not_mem ' ' t h]
    split
    · next hy => rw [words_statementDumps_some _ _ hy, words_strip]; exact List.append_nil _
    · exact words_strip t
  · rw [partitionChar_split ' ' a b ha]
    split
    · next hy => rw [words_statementDumps_some _ _ hy, words_strip, words_strip, words_space a b ' ' sp_space]
    · exact words_strip _

theorem copyrightJoin_space : ∀ c ∈ copyrightJoin, isSpace c = true := by decide +kernel

/-! ### license -/

def optWords : Option Str → List Str
  | none => []
  | some t => words t

theorem words_descriptionDumps (syn : Str) (text : Option Str) :
    words (descriptionDumps syn text) = words syn ++ optWords text := by
  unfold descriptionDumps
  cases text with
  | none => exact (words_strip syn).trans (List.append_nil _).symm
  | some t =>
    simp only [optWords]
    split
    · rename_i ht
      rw [List.isEmpty_iff.mp ht, words_strip, words_nil, List.append_nil]
    · rw [words_space _ _ '\n' (by decide), words_strip, words_cons_space ' ' _ (by decide), words_asFormattedText]
      congr 1
      split
      · rename_i hst; exact words_tail_of_startsWith t ' ' [] (by decide) hst
      · rfl

theorem words_descriptionFromValue (v : Str) :
    words (descriptionFromValue v).1 ++ optWords (descriptionFromValue v).2 = words v := by
  rw [← words_lineSeparated v, descriptionFromValue]
  cases lineSeparated v with
  | nil => rfl
  | cons l ls =>
    show words (strip l) ++ optWords (if ls.isEmpty then none else some (fromFormattedLines ls)) = _
    rw [List.flatMap_cons, words_strip]
    congr 1
    cases ls with
    | nil => rfl
    | cons m ms => exact words_fromFormattedLines (m :: ms)

theorem words_license (v : Str) :
    words (licenseDumps (licenseFromValue v).1 (licenseFromValue v).2) = words v := by
  rw [licenseDumps, licenseFromValue, words_strip, words_descriptionDumps, ← words_descriptionFromValue v]
  congr 1
  cases (descriptionFromValue v).2 with
  | none => rfl
  | some t => exact words_ite rfl (words_lstrip t)

/-! ### every converter class -/

theorem words_copyright (s : Str) :
    words (strip (join copyrightJoin ((lineSeparated s).map fun l => statementDumps (statementFromValue l)))) = words s := by
  rw [words_strip, words_join_sep copyrightJoin (List.cons_ne_nil _ _) copyrightJoin_space, ← words_lineSeparated s,
    List.flatMap_map]
  exact flatMap_congr fun l _ => words_statement l

/-- by converter class; the last class is the one of every other name -/
theorem fromValue_cases (cls : String) (v : Option Str) :
    fromValue cls v = .single (v.map strip) ∨
    fromValue cls v = .lineSep (match v with | some s => (lineSeparated s).map strip | none => []) ∨
    fromValue cls v = .wsSep (match v with | some s => splitWs s | none => []) ∨
    fromValue cls v = .formatted (v.map fun s => if s.isEmpty then s else fromFormattedText s) ∨
    fromValue cls v = .copyright (match v with | some s => (lineSeparated s).map statementFromValue | none => []) ∨
    fromValue cls v = .license (licenseFromValue (v.getD [])).1 (licenseFromValue (v.getD [])).2 := by
  unfold fromValue
  by_cases h1 : cls = "SingleLineField"
  · exact Or.inl (if_pos h1)
  · rw [if_neg h1]
    by_cases h2 : cls = "LineSeparatedField"
    · exact Or.inr (Or.inl (if_pos h2))
    · rw [if_neg h2]
      by_cases h3 : cls = "AnyWhiteSpaceSeparatedField"
      · exact Or.inr (Or.inr (Or.inl (if_pos h3)))
      · rw [if_neg h3]
        by_cases h4 : cls = "FormattedTextField"
        · exact Or.inr (Or.inr (Or.inr (Or.inl (if_pos h4))))
        · rw [if_neg h4]
          by_cases h5 : cls = "CopyrightField"
          · exact Or.inr (Or.inr (Or.inr (Or.inr (Or.inl (if_pos h5)))))
          · exact Or.inr (Or.inr (Or.inr (Or.inr (Or.inr (if_neg h5)))))

/-- **rendering the typed value of a field keeps the words of the field's text**, for every converter class and value -/
theorem words_dumps_fromValue (cls : String) (v : Str) : words (dumps (fromValue cls (some v))) = words v := by
  rcases fromValue_cases cls (some v) with h | h | h | h | h | h <;> rw [h, dumps]
  · exact words_strip v
  · rw [words_joinNlSp, List.flatMap_map, ← words_lineSeparated v]
    exact flatMap_congr fun l _ => words_strip l
  · rw [words_joinNlSp, flatMap_words_tokens _ (splitWs_tokens v)]; rfl
  · rw [← show words (if v.isEmpty then v else fromFormattedText v) = words v from
      words_ite rfl (words_fromFormattedText v)]
    simp only [Option.map_some, Option.getD_some]
    generalize (if v.isEmpty then v else fromFormattedText v) = t
    rw [← words_lineSeparated t]
    split
    · rename_i hl; rw [List.isEmpty_iff.mp hl]; rfl
    · exact words_asFormattedLines _
  · rw [List.map_map]; exact words_copyright v
  · exact words_license v

theorem dumps_absent (cls : String) : dumps (fromValue cls none) = [] := by
  rcases fromValue_cases cls none with h | h | h | h | h | h <;> rw [h] <;> rfl

theorem words_dumps_absent (cls : String) : words (dumps (fromValue cls none)) = [] := by
  rw [dumps_absent]; rfl

end Proofs.WordsConv
