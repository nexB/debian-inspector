/-
The transliteration of dpkg's C `verrevcmp` computes the declarative order `Spec.VerOrder.cmpStr` with dpkg's ranks.

Each inner loop walks both strings at once and either returns a difference or falls through; its specification says
what that answer means for the comparison `o` of the two runs: a returned `d` is non-zero and `sign d = ordInt o`,
falling through means `o = .eq` and the pointers stand after both runs.
-/
import DebInspector.Spec.DpkgOrder
import DebInspector.Proofs.VersionCompare

namespace Proofs.Verrevcmp
open Py Spec Spec.Dpkg Spec.VerOrder PadLex Proofs.VersionCompare

/-! ### `sign` against `ordInt` -/

theorem sign_of_ordInt (o : Ordering) : sign (ordInt o) = ordInt o := by
  cases o <;> simp [sign, ordInt]

theorem sign_eq_zero_iff (d : Int) : sign d = 0 ↔ d = 0 := by
  rw [sign]; split
  · omega
  · split <;> omega

theorem sign_sub (x y : Int) : sign (x - y) = ordInt (compare x y) := by
  rcases Int.lt_trichotomy x y with h | h | h
  · rw [Int.compare_eq_lt.mpr h, sign, if_pos (Int.sub_neg_of_lt h)]; rfl
  · rw [Int.compare_eq_eq.mpr h, h, Int.sub_self]; rfl
  · have := Int.sub_pos_of_lt h
    rw [Int.compare_eq_gt.mpr h, sign, if_neg (by omega), if_neg (by omega)]; rfl

theorem sign_ite (x y : Int) : sign (if x = 0 then y else x) = if sign x = 0 then sign y else sign x := by
  by_cases h : x = 0
  · subst h; rfl
  · rw [if_neg h, if_neg (mt (sign_eq_zero_iff x).mp h)]

theorem ordInt_then (o₁ o₂ : Ordering) :
    ordInt (o₁.then o₂) = if ordInt o₁ = 0 then ordInt o₂ else ordInt o₁ := by cases o₁ <;> rfl

theorem ordInt_eq_zero : ∀ {o : Ordering}, ordInt o = 0 → o = .eq
  | .eq, _ => rfl
  | .lt, h => by cases h
  | .gt, h => by cases h

theorem sign_eq_then {d : Int} {o : Ordering} (hd : d ≠ 0) (h : sign d = ordInt o) (o' : Ordering) :
    sign d = ordInt (o.then o') := by
  cases o with
  | eq => exact absurd ((sign_eq_zero_iff d).mp h) hd
  | lt => exact h
  | gt => exact h

/-! ### the non-digit phase -/

theorem order_nondigit_ne_zero (c : Char) (h : c.isDigit = false) : order (some c) ≠ 0 := by
  unfold order
  simp only [isAsciiDigit, h, Bool.false_eq_true, if_false]
  split
  · rename_i ha
    intro e
    have : c.toNat = 0 := by omega
    have hc : c = Char.ofNat 0 := by rw [← this, Char.ofNat_toNat]
    rw [hc] at ha; revert ha; decide
  · split
    · omega
    · omega

theorem order_digit (c : Char) (h : c.isDigit = true) : order (some c) = 0 := by
  simp [order, isAsciiDigit, h]

theorem order_ne_zero_iff (a : Str) : order a.head? ≠ 0 ↔ isNonDigit a.head? = true := by
  cases a with
  | nil => exact iff_of_false (fun h => h rfl) Bool.false_ne_true
  | cons c cs =>
    show _ ↔ (!c.isDigit) = true
    cases h : c.isDigit with
    | true => exact iff_of_false (fun h' => h' (order_digit c h)) Bool.false_ne_true
    | false => exact iff_of_true (order_nondigit_ne_zero c h) rfl

theorem spanNonDigit_of_end (a : Str) (h : isNonDigit a.head? = false) : spanNonDigit a = ([], a) := by
  cases a with
  | nil => rfl
  | cons c cs => exact spanNonDigit_cons_digit cs (by simpa [isNonDigit] using h)

theorem spanNonDigit_tail (a : Str) (h : order a.head? ≠ 0) :
    spanNonDigit a.tail = ((spanNonDigit a).1.tail, (spanNonDigit a).2) := by
  cases a with
  | nil => exact absurd rfl h
  | cons c cs => rw [spanNonDigit_cons_nondigit cs (Bool.eq_false_iff.mpr fun hd => h (order_digit c hd))]; rfl

/-- the loop reads the non-digit run through the string itself: where the run has ended, `*a` has order 0 like the
end of the run -/
theorem order_span_head (a : Str) : order (spanNonDigit a).1.head? = order a.head? := by
  cases a with
  | nil => rfl
  | cons c cs =>
    cases h : c.isDigit with
    | true => rw [spanNonDigit_cons_digit cs h, List.head?_cons, order_digit c h]; rfl
    | false => rw [spanNonDigit_cons_nondigit cs h]; rfl

/-- what an answer of the non-digit loop means, for the comparison `o` of the two runs and the strings `rest` after them -/
def NonDigitSpec (o : Ordering) (rest : Str × Str) : Int ⊕ (Str × Str) → Prop
  | .inl d => d ≠ 0 ∧ sign d = ordInt o
  | .inr w => o = .eq ∧ w = rest

theorem nonDigitLoop_succ_true (n : Nat) (a b : Str) (h : (isNonDigit a.head? || isNonDigit b.head?) = true) :
    nonDigitLoop (n + 1) a b =
      if order a.head? ≠ order b.head? then .inl (order a.head? - order b.head?) else nonDigitLoop n a.tail b.tail := by
  simp [nonDigitLoop, h]

theorem nonDigitLoop_succ_false (n : Nat) (a b : Str) (h : (isNonDigit a.head? || isNonDigit b.head?) = false) :
    nonDigitLoop (n + 1) a b = .inr (a, b) := by
  simp [nonDigitLoop, h]

theorem length_tail_le {s : Str} {n : Nat} (h : s.length ≤ n + 1) : s.tail.length ≤ n := by
  rw [List.length_tail]; exact Nat.sub_le_of_le_add h

theorem nonDigitLoop_spec (n : Nat) (a b : Str) (ha : a.length ≤ n) (hb : b.length ≤ n) :
    NonDigitSpec (cmpRun dpkgRk (spanNonDigit a).1 (spanNonDigit b).1) ((spanNonDigit a).2, (spanNonDigit b).2)
      (nonDigitLoop n a b) := by
  induction n generalizing a b with
  | zero =>
    rw [List.eq_nil_of_length_eq_zero (Nat.le_zero.mp ha), List.eq_nil_of_length_eq_zero (Nat.le_zero.mp hb)]
    exact ⟨cmpRun_nil_nil _, rfl⟩
  | succ n ih =>
    cases hc : (isNonDigit a.head? || isNonDigit b.head?) with
    | false =>
      rw [nonDigitLoop_succ_false n a b hc]
      rw [Bool.or_eq_false_iff] at hc
      rw [spanNonDigit_of_end a hc.1, spanNonDigit_of_end b hc.2]
      exact ⟨cmpRun_nil_nil _, rfl⟩
    | true =>
      rw [nonDigitLoop_succ_true n a b hc, cmpRun_head_tail, cmpRk, dpkgRk, dpkgRk, order_span_head, order_span_head]
      by_cases he : order a.head? = order b.head?
      · -- equal orders: neither is 0, both pointers are on non-digit characters and move on
        have h0 : order b.head? ≠ 0 := by
          rwa [Bool.or_eq_true, ← order_ne_zero_iff, ← order_ne_zero_iff, he, or_self] at hc
        have := ih a.tail b.tail (length_tail_le ha) (length_tail_le hb)
        rw [spanNonDigit_tail a (he ▸ h0), spanNonDigit_tail b h0] at this
        rwa [if_neg (fun h => h he), he, Int.compare_eq_eq.mpr rfl]
      · rw [if_pos he]
        have hd := mt Int.sub_eq_zero.mp he
        exact ⟨hd, sign_eq_then hd (sign_sub _ _) _⟩

/-! ### the digit phase: "skip zeros, the longer run wins, else the first difference" is numeric comparison -/

/-- value of a digit run continued from the value `u` of the digits already read -/
def F (u : Nat) (ds : Str) : Nat := Nat.ofDigitChars 10 ds u

/-- the value of a digit character (`*a - '0'`) -/
def dval (c : Char) : Nat := c.toNat - '0'.toNat

theorem F_nil (u : Nat) : F u [] = u := by simp [F]

theorem F_cons (u : Nat) (c : Char) (cs : Str) : F u (c :: cs) = F (10 * u + dval c) cs := by
  simp [F, Nat.ofDigitChars_cons, dval]

theorem F_ge (u : Nat) (ds : Str) : u ≤ F u ds := by
  induction ds generalizing u with
  | nil => simp [F_nil]
  | cons d ds ih => rw [F_cons]; have := ih (10 * u + dval d); omega

theorem F_cons_ge (u : Nat) (d : Char) (ds : Str) : 10 * u ≤ F u (d :: ds) := by
  rw [F_cons]; have := F_ge (10 * u + dval d) ds; omega

theorem dval_le {c : Char} (h : c.isDigit = true) : dval c ≤ 9 ∧ (c.toNat : Int) = dval c + 48 := by
  have := Char.isDigit_iff_toNat.mp h
  have e0 : '0'.toNat = 48 := rfl
  have e9 : '9'.toNat = 57 := rfl
  unfold dval
  omega

theorem cmpNat_digit_step {u w a b : Nat} (ha : a ≤ 9) (hb : b ≤ 9) :
    cmpNat (10 * u + a) (10 * w + b) = (cmpNat u w).then (cmpNat a b) := by
  have lead {u w a : Nat} (b : Nat) (ha : a ≤ 9) (h : u < w) : 10 * u + a < 10 * w + b := by omega
  rcases Nat.lt_trichotomy u w with h | rfl | h
  · rw [cmpNat_of_lt h, cmpNat_of_lt (lead b ha h)]; rfl
  · rw [cmpNat_self]
    rcases Nat.lt_trichotomy a b with h | rfl | h
    · rw [cmpNat_of_lt h, cmpNat_of_lt (Nat.add_lt_add_left h _)]; rfl
    · rw [cmpNat_self, cmpNat_self]; rfl
    · rw [cmpNat_of_gt h, cmpNat_of_gt (Nat.add_lt_add_left h _)]; rfl
  · rw [cmpNat_of_gt h, cmpNat_of_gt (lead a hb h)]; rfl

theorem below_step {u w a b c : Nat} (h : u < 10 * w + b) (ha : a ≤ 9) : 10 * u + a < 10 * (10 * w + b) + c := by
  omega

/-- `first_diff` keeps the order of the two prefixes read so far when each takes one more digit -/
theorem fd_step {u w : Nat} {fd : Int} {a b : Char} (ha : a.isDigit = true) (hb : b.isDigit = true)
    (hfd : sign fd = ordInt (cmpNat u w)) :
    sign (if fd = 0 then (a.toNat : Int) - b.toNat else fd) =
      ordInt (cmpNat (10 * u + dval a) (10 * w + dval b)) := by
  rw [cmpNat_digit_step (dval_le ha).1 (dval_le hb).1, ordInt_then, ← hfd, sign_ite, (dval_le ha).2, (dval_le hb).2,
    Int.add_sub_add_right, sign_sub]
  rfl

/-- the loop test `c_isdigit(*a)` -/
def headDigit (s : Str) : Bool := headP Char.isDigit s

theorem spanDigits_of_end (s : Str) (h : headDigit s = false) : spanDigits s = ([], s) := by
  cases s with
  | nil => rfl
  | cons c cs => exact spanDigits_cons_nondigit cs h

theorem digitLoop_cons_cons {a b : Char} (ha : a.isDigit = true) (hb : b.isDigit = true) (as bs : Str) (fd : Int) :
    digitLoop (a :: as) (b :: bs) fd = digitLoop as bs (if fd = 0 then (a.toNat : Int) - b.toNat else fd) := by
  rw [digitLoop, if_pos (show (a.isDigit && b.isDigit) = true by rw [ha, hb]; rfl)]

theorem digitLoop_end (a b : Str) (fd : Int) (h : headDigit a = false ∨ headDigit b = false) :
    digitLoop a b fd = digitLoop.digitEnd a b fd := by
  cases a with
  | nil => cases b <;> simp [digitLoop]
  | cons c cs =>
    cases b with
    | nil => simp [digitLoop]
    | cons d ds =>
      have : (c.isDigit && d.isDigit) = false := by
        rcases h with h | h
        · rw [show c.isDigit = false from h]; rfl
        · rw [show d.isDigit = false from h, Bool.and_false]
      simp [digitLoop, isAsciiDigit, this]

theorem digitEnd_left_digit (a b : Str) (fd : Int) (h : headDigit a = true) :
    digitLoop.digitEnd a b fd = (some 1, a, b) := by
  have : headP isAsciiDigit a = true := h
  simp [digitLoop.digitEnd, this]

theorem digitEnd_right_digit (a b : Str) (fd : Int) (ha : headDigit a = false) (hb : headDigit b = true) :
    digitLoop.digitEnd a b fd = (some (-1), a, b) := by
  have h1 : headP isAsciiDigit a = false := ha
  have h2 : headP isAsciiDigit b = true := hb
  simp [digitLoop.digitEnd, h1, h2]

theorem digitEnd_no_digit (a b : Str) (fd : Int) (ha : headDigit a = false) (hb : headDigit b = false) :
    digitLoop.digitEnd a b fd = if fd ≠ 0 then (some fd, a, b) else (none, a, b) := by
  have h1 : headP isAsciiDigit a = false := ha
  have h2 : headP isAsciiDigit b = false := hb
  simp [digitLoop.digitEnd, h1, h2]

/-- the same for the digit loop, whose answer is `some d` for a difference and `none` for falling through -/
def DigitSpec (o : Ordering) (rest : Str × Str) : Option Int × Str × Str → Prop
  | (some d, _) => d ≠ 0 ∧ sign d = ordInt o
  | (none, w) => o = .eq ∧ w = rest

/-- The invariant of the digit loop. `u`, `w` are the values of the equal-length prefixes already walked (`fd`
remembers their order). Neither number can be caught up once the other's run has ended: `u` is below `w` extended by
the next digit of `ys`, if there is one, and conversely. (After the first step this is `u < 10w`, `w < 10u`: equally
many digits, the leading ones non-zero; in the start state `u = w = 0` it says that no run starts with `0`.) -/
structure DigitInv (xs ys : Str) (u w : Nat) : Prop where
  left : headDigit ys = true → u < 10 * w + dval (ys.headD '0')
  right : headDigit xs = true → w < 10 * u + dval (xs.headD '0')

/-- when one of the runs has ended the loop is over: a run that goes on wins, else `fd` decides -/
theorem digitLoop_done (xs ys : Str) (u w : Nat) (fd : Int) (hend : headDigit xs = false ∨ headDigit ys = false)
    (hI : DigitInv xs ys u w)
    (hfd : sign fd = ordInt (cmpNat u w)) :
    DigitSpec (cmpNat (F u (spanDigits xs).1) (F w (spanDigits ys).1)) ((spanDigits xs).2, (spanDigits ys).2)
      (digitLoop xs ys fd) := by
  rw [digitLoop_end xs ys fd hend]
  cases hx : headDigit xs with
  | true =>
    have hy : headDigit ys = false := hend.resolve_left (by rw [hx]; decide)
    obtain ⟨a, as, rfl, ha⟩ := eq_cons_of_headP hx
    have h2 : w < 10 * u + dval a := hI.right hx
    rw [digitEnd_left_digit _ _ _ hx, spanDigits_of_end ys hy, F_nil, spanDigits_cons_digit as ha, F_cons,
      cmpNat_of_gt (Nat.lt_of_lt_of_le h2 (F_ge _ _))]
    exact ⟨by decide, rfl⟩
  | false =>
    rw [spanDigits_of_end xs hx, F_nil]
    cases hy : headDigit ys with
    | true =>
      obtain ⟨b, bs, rfl, hb⟩ := eq_cons_of_headP hy
      have h1 : u < 10 * w + dval b := hI.left hy
      rw [digitEnd_right_digit _ _ _ hx hy, spanDigits_cons_digit bs hb, F_cons,
        cmpNat_of_lt (Nat.lt_of_lt_of_le h1 (F_ge _ _))]
      exact ⟨by decide, rfl⟩
    | false =>
      rw [digitEnd_no_digit _ _ _ hx hy, spanDigits_of_end ys hy, F_nil]
      by_cases hz : fd = 0
      · rw [if_neg (fun h => h hz)]
        rw [hz] at hfd
        exact ⟨ordInt_eq_zero hfd.symm, rfl⟩
      · rw [if_pos hz]; exact ⟨hz, hfd⟩

theorem digitLoop_spec (xs ys : Str) (u w : Nat) (fd : Int) (hI : DigitInv xs ys u w)
    (hfd : sign fd = ordInt (cmpNat u w)) :
    DigitSpec (cmpNat (F u (spanDigits xs).1) (F w (spanDigits ys).1)) ((spanDigits xs).2, (spanDigits ys).2)
      (digitLoop xs ys fd) := by
  induction xs generalizing ys u w fd with
  | nil => exact digitLoop_done [] ys u w fd (.inl rfl) hI hfd
  | cons a as ih =>
    by_cases hboth : a.isDigit = true ∧ headDigit ys = true
    · obtain ⟨ha, hy⟩ := hboth
      obtain ⟨b, bs, rfl, hb⟩ := eq_cons_of_headP hy
      have h1 : u < 10 * w + dval b := hI.left hy
      have h2 : w < 10 * u + dval a := hI.right ha
      rw [digitLoop_cons_cons ha hb, spanDigits_cons_digit as ha, spanDigits_cons_digit bs hb, F_cons, F_cons]
      exact ih bs _ _ _ ⟨fun _ => below_step h1 (dval_le ha).1, fun _ => below_step h2 (dval_le hb).1⟩
        (fd_step ha hb hfd)
    · refine digitLoop_done _ _ _ _ _ ?_ hI hfd
      cases ha : a.isDigit with
      | false => exact .inl ha
      | true => exact .inr (by simpa [ha] using hboth)

/-! ### leading zeros -/

theorem skipZeros_zero (s : Str) : skipZeros ('0' :: s) = skipZeros s := by rw [skipZeros]

theorem skipZeros_of_ne {c : Char} (h : c ≠ '0') (s : Str) : skipZeros (c :: s) = c :: s := by
  unfold skipZeros
  split
  · rename_i heq; exact absurd (List.cons.inj heq).1 h
  · rfl

theorem skipZeros_spec (s : Str) :
    (spanDigits (skipZeros s)).2 = (spanDigits s).2 ∧
    F 0 (spanDigits (skipZeros s)).1 = F 0 (spanDigits s).1 ∧
    (headDigit (skipZeros s) = true → 0 < dval ((skipZeros s).headD '0')) := by
  induction s with
  | nil => exact ⟨rfl, rfl, fun h => nomatch h⟩
  | cons c cs ih =>
    by_cases hz : c = '0'
    · subst hz
      rw [skipZeros_zero, spanDigits_cons_digit cs (by decide), F_cons]
      exact ih
    · rw [skipZeros_of_ne hz]
      refine ⟨rfl, rfl, fun h => ?_⟩
      have hd := Char.isDigit_iff_toNat.mp h
      have e0 : '0'.toNat = 48 := rfl
      have : c.toNat ≠ 48 := fun e => hz (by rw [← Char.ofNat_toNat c, e])
      show 0 < c.toNat - '0'.toNat
      omega

theorem digitPhase_spec (wa wb : Str) :
    DigitSpec (cmpNat (digitsVal (spanDigits wa).1) (digitsVal (spanDigits wb).1))
      ((spanDigits wa).2, (spanDigits wb).2) (digitLoop (skipZeros wa) (skipZeros wb) 0) := by
  obtain ⟨ra, va, la⟩ := skipZeros_spec wa
  obtain ⟨rb, vb, lb⟩ := skipZeros_spec wb
  have := digitLoop_spec (skipZeros wa) (skipZeros wb) 0 0 0
    ⟨fun h => by have := lb h; omega, fun h => by have := la h; omega⟩ (by rw [cmpNat_self]; rfl)
  rw [ra, rb, va, vb] at this
  exact this

/-! ### the outer loop -/

theorem verrevcmpFuel_eq (n : Nat) (a b : Str) (hn : a.length + b.length ≤ n) :
    sign (verrevcmpFuel n a b) = ordInt (cmpStr dpkgRk a b) := by
  induction n generalizing a b with
  | zero =>
    obtain ⟨e1, e2⟩ := Nat.add_eq_zero_iff.mp (Nat.le_zero.mp hn)
    rw [List.eq_nil_of_length_eq_zero e1, List.eq_nil_of_length_eq_zero e2, cmpStr_nil_nil]; rfl
  | succ n ih =>
    by_cases hb : a = [] ∧ b = []
    · rw [hb.1, hb.2, cmpStr_nil_nil]; rfl
    · rw [verrevcmpFuel, not_both_isEmpty hb, if_neg Bool.false_ne_true, cmpStr_unfold dpkgRk a b hb, cmpTok, cmpProd]
      have hnd := nonDigitLoop_spec (a.length + b.length) a b (Nat.le_add_right _ _) (Nat.le_add_left _ _)
      cases hr : nonDigitLoop (a.length + b.length) a b with
      | inl d =>
        rw [hr] at hnd
        exact sign_eq_then hnd.1 (sign_eq_then hnd.1 hnd.2 _) _
      | inr w =>
        rw [hr] at hnd
        obtain ⟨ho, rfl⟩ := hnd
        have hdg := digitPhase_spec (spanNonDigit a).2 (spanNonDigit b).2
        dsimp only [firstTok]
        rw [ho]
        cases hd : digitLoop (skipZeros (spanNonDigit a).2) (skipZeros (spanNonDigit b).2) 0 with
        | mk r rest =>
          rw [hd] at hdg
          cases r with
          | some d => exact sign_eq_then hdg.1 hdg.2 _
          | none =>
            obtain ⟨ho', rfl⟩ := hdg
            rw [ho']
            exact ih _ _ (afterTok_fuel hb hn)

theorem verrevcmp_eq (a b : Str) : sign (verrevcmp a b) = ordInt (cmpStr dpkgRk a b) :=
  verrevcmpFuel_eq _ a b (by omega)

/-! ### whole versions: `dpkg_version_compare` on the `parseversion` decomposition -/

theorem tokens_zero : tokens ['0'] = [([], 0)] := by
  rw [tokens_cons _ (List.cons_ne_nil _ _)]
  exact congrArg _ tokens_nil

/-- "a missing revision counts as revision 0" -/
theorem cmpStr_zero_left (y : Str) : cmpStr dpkgRk ['0'] y = cmpStr dpkgRk [] y := by
  unfold cmpStr
  rw [tokens_zero, tokens_nil]
  exact cmpPad_pad_left _ _ ((cmpTok_pre dpkgRk).refl _) _

theorem cmpStr_zero_right (x : Str) : cmpStr dpkgRk x ['0'] = cmpStr dpkgRk x [] := by
  unfold cmpStr
  rw [tokens_zero, tokens_nil]
  exact cmpPad_pad_right _ _ ((cmpTok_pre dpkgRk).refl _) _

/-- a missing revision as dpkg's `parseversion` (empty) and as the model (`"0"`) give it -/
def revOf (r : Option Str) : Str := match r with | none => [] | some r => r
def revOf0 (r : Option Str) : Str := match r with | none => ['0'] | some r => r

theorem cmpStr_rev (r1 r2 : Option Str) :
    cmpStr dpkgRk (revOf0 r1) (revOf0 r2) = cmpStr dpkgRk (revOf r1) (revOf r2) := by
  cases r1 <;> cases r2 <;> simp [revOf, revOf0, cmpStr_zero_left, cmpStr_zero_right]

theorem parse_epoch (a : Str) : (parse a).epoch = (Policy.split a).1 := rfl
theorem parse_version (a : Str) : (parse a).version = (Policy.split a).2.1 := rfl
theorem parse_revision (a : Str) :
    (parse a).revision = revOf (Policy.splitRevision (Policy.splitEpoch a).2).2 := rfl
theorem split_revision (a : Str) :
    (Policy.split a).2.2 = revOf0 (Policy.splitRevision (Policy.splitEpoch a).2).2 := rfl

/-- `sign (dpkg_version_compare (parseversion a) (parseversion b))` is the epoch / upstream / revision cascade of
`Spec.VerOrder.dpkgCmpVersions`, for all strings -/
theorem compareStr_eq_declarative (a b : Str) : compareStr a b = dpkgCmpVersions a b := by
  unfold compareStr dpkgCmpVersions Dpkg.compare cmpVer
  rw [parse_epoch, parse_epoch, parse_version, parse_version, parse_revision, parse_revision,
    split_revision, split_revision, cmpStr_rev]
  generalize (Policy.split a).1 = e1
  generalize (Policy.split b).1 = e2
  dsimp only
  rcases Nat.lt_trichotomy e1 e2 with h | h | h
  · rw [if_neg (Nat.lt_asymm h), if_pos h, cmpNat_of_lt h]; rfl
  · subst h
    rw [if_neg (Nat.lt_irrefl _), if_neg (Nat.lt_irrefl _), cmpNat_self, ite_not, sign_ite, verrevcmp_eq, verrevcmp_eq,
      ← ordInt_then]
    rfl
  · rw [if_pos h, cmpNat_of_gt h]; rfl

end Proofs.Verrevcmp
